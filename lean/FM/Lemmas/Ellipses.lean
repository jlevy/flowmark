import FM.Model.Ellipses
/-
  Lemmas for the ellipsis model: `squashE` (what the conversion must leave unchanged), and what one
  scanning step consumes and emits.
-/
namespace FM

/-- Delete all whitespace and spell `…` as `...`. -/
def squashE : Str → Str
  | [] => []
  | c :: cs =>
    if isPySpace c then squashE cs
    else if c == ellipsisChar then '.' :: '.' :: '.' :: squashE cs
    else c :: squashE cs

theorem squashE_append (a b : Str) : squashE (a ++ b) = squashE a ++ squashE b := by
  fun_induction squashE a <;> simp_all [squashE]

theorem squashE_spaces {s : Str} (h : s.all isPySpace = true) : squashE s = [] := by
  induction s <;> simp_all [squashE]

theorem squashE_space : squashE [' '] = [] := by decide
theorem squashE_ell : squashE [ellipsisChar] = threeDots := by decide
theorem squashE_dots : squashE threeDots = threeDots := by decide

theorem squashE_nil : squashE [] = [] := rfl

theorem punctPrefix_append_drop (r : Str) : punctPrefix r ++ r.drop (punctPrefix r).length = r := by
  cases r with
  | nil => rfl
  | cons c t => by_cases hc : isEllPunct c = true <;> simp [punctPrefix, hc]

theorem ellBody_spec {s sb p sa rest : Str} (h : ellBody s = some (sb, p, sa, rest)) :
    s = sb ++ threeDots ++ p ++ sa ++ rest ∧ squashE sb = [] ∧ squashE sa = [] := by
  unfold ellBody at h
  simp only [Option.ite_none_right_eq_some, Option.some.injEq, Prod.mk.injEq] at h
  obtain ⟨hp, rfl, rfl, rfl, rfl⟩ := h
  have hd : threeDots ++ (s.dropWhile isPySpace).drop 3 = s.dropWhile isPySpace :=
    List.prefix_iff_eq_append.1 (List.isPrefixOf_iff_prefix.1 hp)
  simp only [List.append_assoc, List.takeWhile_append_dropWhile, punctPrefix_append_drop, hd,
    squashE_spaces List.all_takeWhile, and_self]

theorem ellBody_none_of_no_dot {s : Str} (h : '.' ∉ s) : ellBody s = none := by
  cases hb : ellBody s with
  | none => rfl
  | some t =>
    obtain ⟨sb, p, sa, rest⟩ := t
    exact absurd (by rw [(ellBody_spec hb).1]; simp [threeDots]) h

theorem squashE_ellReplace (isWord : Char → Bool) (pre p rest : Str) {sb sa : Str}
    (hsb : squashE sb = []) (hsa : squashE sa = []) :
    squashE (ellReplace isWord pre sb p sa rest) = squashE (pre ++ sb ++ threeDots ++ p ++ sa) := by
  unfold ellReplace
  -- `squashE` goes through `++` and `if`; an inserted space squashes to nothing like `sb`/`sa`, `…` to `...`
  split <;> simp only [squashE_append, apply_ite squashE, squashE_space, squashE_ell, squashE_dots,
    hsb, hsa, ite_self, List.append_nil]

theorem take_consumed {α} {l x rest : List α} (h : l = x ++ rest) :
    l.take (l.length - rest.length) = x := by
  subst h; simp

/-- What both matching branches of `ellStep` emit: `pre` is group 1 (nothing, or one character), `s` the text behind
it, on which `ellBody` matches. -/
theorem ellEmit_spec (isWord : Char → Bool) (inTag : Bool) (pre : Str) {s sb p sa rest : Str}
    (h : ellBody s = some (sb, p, sa, rest)) :
    let out := if inTag then (pre ++ s).take ((pre ++ s).length - rest.length)
      else ellReplace isWord pre sb p sa rest
    ∃ consumed, pre ++ s = consumed ++ rest ∧ (inTag = true → out = consumed) ∧
      squashE out = squashE consumed := by
  obtain ⟨rfl, hsb, hsa⟩ := ellBody_spec h
  have hc : pre ++ (sb ++ threeDots ++ p ++ sa ++ rest) = (pre ++ sb ++ threeDots ++ p ++ sa) ++ rest := by
    simp
  refine ⟨_, hc, ?_⟩
  cases inTag
  · simp [squashE_ellReplace, hsb, hsa]
  · simp only [if_true, take_consumed hc, true_implies, and_self]

/-- One step consumes a prefix of the text; what it emits is that prefix itself inside a tag, and has the same
squash anywhere. -/
theorem ellStep_spec (isWord : Char → Bool) (ls inTag : Bool) (c : Char) (cs : Str) :
    ∃ consumed, c :: cs = consumed ++ (ellStep isWord ls inTag c cs).2 ∧
      (inTag = true → (ellStep isWord ls inTag c cs).1 = consumed) ∧
      squashE (ellStep isWord ls inTag c cs).1 = squashE consumed := by
  unfold ellStep
  split
  · next h => exact ellEmit_spec isWord inTag [] (Option.ite_none_right_eq_some.1 h).2
  · split
    · next h => exact ellEmit_spec isWord inTag [c] (Option.ite_none_right_eq_some.1 h).2
    · exact ⟨[c], rfl, fun _ => rfl, rfl⟩

theorem ellPass_squash (isWord : Char → Bool) (tagAt : Nat → Bool) (n : Nat) (ls : Bool) (pos : Nat)
    (s : Str) : squashE (ellPass isWord tagAt n ls pos s) = squashE s := by
  fun_induction ellPass isWord tagAt n ls pos s with
  | case1 => rfl
  | case2 => rfl
  | case3 n ls pos c cs r ih =>
    obtain ⟨consumed, hs, -, hq⟩ := ellStep_spec isWord ls (tagAt pos) c cs
    rw [squashE_append, ih, hq, hs, squashE_append]

/-- On text without a full stop no step's `ellBody` matches, so every step copies one character. -/
theorem ellPass_no_dot (isWord : Char → Bool) (tagAt : Nat → Bool) (n : Nat) (ls : Bool) (pos : Nat)
    {s : Str} (h : '.' ∉ s) : ellPass isWord tagAt n ls pos s = s := by
  fun_induction ellPass isWord tagAt n ls pos s with
  | case1 => rfl
  | case2 => rfl
  | case3 n ls pos c cs r ih =>
    have hcs : '.' ∉ cs := fun hm => h (by simp [hm])
    have hr : r = ([c], cs) := by
      simp [r, ellStep, ellBody_none_of_no_dot h, ellBody_none_of_no_dot hcs]
    rw [hr] at ih ⊢
    simpa using ih hcs
end FM
