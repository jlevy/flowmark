import FM.Lemmas.Render
import FM.Lemmas.Str
/-
  Prefix discipline of the render model: every line a block writes is empty or starts with the first-line
  or the continuation prefix of the container it is rendered in (`pd_all`), provided the line wrapper
  keeps the same contract (`WrapPD`).
-/
namespace FM

/-- a line is in order for a container with first-line prefix `p` and continuation prefix `s`: it
is empty, or it starts with one of the two prefixes (trailing whitespace of the prefix aside) -/
def PfxOK (p s L : Str) : Prop := L = [] ∨ rstrip p <+: L ∨ rstrip s <+: L

/-- the text is a sequence of newline-terminated lines, each satisfying `P` -/
inductive AllLines (P : Str → Prop) : Str → Prop
  | nil : AllLines P []
  | line {body rest : Str} : '\n' ∉ body → P body → AllLines P rest → AllLines P (body ++ '\n' :: rest)

theorem AllLines.append {P : Str → Prop} {a b : Str} (ha : AllLines P a) (hb : AllLines P b) : AllLines P (a ++ b) := by
  induction ha with
  | nil => simpa
  | line h1 h2 _ ih =>
    rw [List.append_assoc, List.cons_append]
    exact .line h1 h2 ih

theorem AllLines.mono {P Q : Str → Prop} {a : Str} (h : ∀ L, P L → Q L) (ha : AllLines P a) : AllLines Q a := by
  induction ha with
  | nil => exact .nil
  | line h1 h2 _ ih => exact .line h1 (h _ h2) ih

theorem AllLines.single {P : Str → Prop} {body : Str} (h1 : '\n' ∉ body) (h2 : P body) : AllLines P (body ++ ['\n']) :=
  .line h1 h2 .nil

/-- cutting a line sequence right before one of its newlines and closing the line again -/
theorem AllLines.cut {P : Str → Prop} {x : Str} (hx : AllLines P x) : ∀ (y z : Str), x = y ++ '\n' :: z →
    AllLines P (y ++ ['\n']) := by
  induction hx with
  | nil => intro y z h; simp at h
  | @line body rest h1 h2 _ ih =>
    intro y z h
    -- `body` is newline-free, so it ends at the first newline of `y ++ '\n' :: z`
    rcases List.append_eq_append_iff.1 h with ⟨a, rfl, ha⟩ | ⟨c, rfl, hc⟩
    · cases a with
      | nil => simpa using AllLines.single h1 h2
      | cons d a =>
        obtain ⟨rfl, rfl⟩ : '\n' = d ∧ rest = a ++ '\n' :: z := by simpa using ha
        simpa using AllLines.line h1 h2 (ih a z rfl)
    · cases c with
      | nil => simpa using AllLines.single h1 h2
      | cons d c =>
        obtain ⟨rfl, -⟩ : '\n' = d ∧ z = c ++ '\n' :: rest := by simpa using hc
        exact absurd (by simp) h1

/-- `y` is `x` cut before one of its newlines (or all / nothing of it) -/
def Cut (x y : Str) : Prop := y = [] ∨ y = x ∨ ∃ z, x = y ++ '\n' :: z

theorem Cut.trans {x t y : Str} (h1 : Cut x t) (h2 : Cut t y) : Cut x y := by
  rcases h2 with rfl | rfl | ⟨z, rfl⟩
  · exact Or.inl rfl
  · exact h1
  · rcases h1 with h | rfl | ⟨z', rfl⟩
    · simp at h
    · exact Or.inr (Or.inr ⟨z, rfl⟩)
    · exact Or.inr (Or.inr ⟨z ++ '\n' :: z', by simp⟩)

theorem AllLines.of_cut {P : Str → Prop} (hP : P []) {x y : Str} (hx : AllLines P x) (h : Cut x y) :
    AllLines P (y ++ ['\n']) := by
  rcases h with rfl | rfl | ⟨z, rfl⟩
  · exact .single (by simp) hP
  · exact hx.append (.single (by simp) hP)
  · exact hx.cut y z rfl

theorem cut_rstripNl (s : Str) : Cut s (rstripNl s) := by
  have h : s = rstripNl s ++ (s.reverse.takeWhile (· == '\n')).reverse := by
    rw [rstripNl, ← List.reverse_append, List.takeWhile_append_dropWhile, List.reverse_reverse]
  have hall := List.all_eq_true.1 (List.all_takeWhile (p := (· == '\n')) (l := s.reverse))
  generalize s.reverse.takeWhile (· == '\n') = t at h hall
  cases ht : t.reverse with
  | nil => exact Or.inr (Or.inl (by rw [ht] at h; simpa using h.symm))
  | cons c t' =>
    have hc : c = '\n' := by simpa using hall c (by rw [← List.mem_reverse, ht]; simp)
    exact Or.inr (Or.inr ⟨t', by rw [ht, hc] at h; exact h⟩)

theorem cut_stripAux (blank : Str) (n : Nat) (t : Str) : Cut t (stripTrailingBlankAux blank n t) := by
  fun_induction stripTrailingBlankAux blank n t with
  | case1 t => exact .inr (.inl rfl)
  | case2 n t hc ih =>
    -- `t = r ++ "\n" ++ blank`, and the loop goes on from `rstripNl r`
    obtain ⟨r, rfl⟩ := endsWith_spec (Bool.and_eq_true _ _ ▸ hc).2
    have htake : (r ++ '\n' :: blank).take ((r ++ '\n' :: blank).length - blank.length) = r ++ ['\n'] := by
      rw [show r ++ '\n' :: blank = (r ++ ['\n']) ++ blank by simp, List.take_left' (by simp; omega)]
    rw [htake, show rstripNl (r ++ ['\n']) = rstripNl r by simp [rstripNl]] at ih ⊢
    exact (Cut.trans (.inr (.inr ⟨blank, rfl⟩)) (cut_rstripNl r)).trans ih
  | case3 n t hc => exact .inr (.inl rfl)

theorem cut_stripTrailingBlank (x q : Str) : Cut x (stripTrailingBlank x q) := by
  unfold stripTrailingBlank
  exact (cut_rstripNl x).trans (cut_stripAux _ _ _)

theorem PfxOK.container {p s m i L : Str} (h : PfxOK (p ++ m) (s ++ i) L) : PfxOK p s L := by
  rcases h with h | h | h
  · exact Or.inl h
  · exact Or.inr (Or.inl ((rstrip_prefix_append p m).trans h))
  · exact Or.inr (Or.inr ((rstrip_prefix_append s i).trans h))

theorem PfxOK.of_pfx (p s x : Str) : PfxOK p s (p ++ x) :=
  Or.inr (Or.inl ((rstrip_prefix p).trans (List.prefix_append _ _)))

theorem PfxOK.of_snd (p s x : Str) : PfxOK p s (s ++ x) :=
  Or.inr (Or.inr ((rstrip_prefix s).trans (List.prefix_append _ _)))

theorem PfxOK.of_rsnd (p s : Str) : PfxOK p s (rstrip s) := Or.inr (Or.inr (List.prefix_refl _))

/-- the state after a block: either prefix becomes the new first-line prefix -/
theorem PfxOK.next {p s p' L : Str} (hp : p' = p ∨ p' = s) (h : PfxOK p' s L) : PfxOK p s L := by
  rcases h with h | h | h
  · exact Or.inl h
  · rcases hp with rfl | rfl
    · exact Or.inr (Or.inl h)
    · exact Or.inr (Or.inr h)
  · exact Or.inr (Or.inr h)

theorem allLines_joinWith {P : Str → Prop} (ls : List Str) (hne : ls ≠ []) (h : ∀ l ∈ ls, '\n' ∉ l ∧ P l) :
    AllLines P (joinWith ['\n'] ls ++ ['\n']) := by
  fun_induction joinWith ['\n'] ls with
  | case1 => exact absurd rfl hne
  | case2 l => exact .single (h l (by simp)).1 (h l (by simp)).2
  | case3 l ls hls ih =>
    rw [List.append_assoc, List.append_assoc, List.singleton_append]
    exact .line (h l (by simp)).1 (h l (by simp)).2 (ih hls fun x hx => h x (by simp [hx]))

def noNl (s : Str) : Bool := !s.contains '\n'

theorem noNl_iff {s : Str} : noNl s = true ↔ '\n' ∉ s := by simp [noNl]

mutual
  /-- blocks all of whose verbatim leaf strings are newline-free, and which hold no link reference
  definition or table (their text is emitted as written, so nothing can be said about its lines) -/
  def plainBlock : Block → Bool
    | .para _ _ => true
    | .heading _ _ _ => true
    | .list _ _ bullet _ items => noNl bullet && plainBlocks items
    | .item bs => plainBlocks bs
    | .quote bs => plainBlocks bs
    | .alert ty bs => noNl ty && plainBlocks bs
    | .fenced lang extra _ fch _ => noNl lang && noNl extra && fch != '\n'
    | .indented _ => true
    | .hr => true
    | .blank => true
    | .linkdef _ _ _ => false
    | .fndef label bs => noNl label && plainBlocks bs
    | .table _ _ _ => false
  def plainBlocks : List Block → Bool
    | [] => true
    | b :: bs => plainBlock b && plainBlocks bs
end

/-- the contract of a line wrapper: its result, closed by a newline, is a sequence of lines that
start with the first-line prefix or the continuation prefix it was given -/
def WrapPD (cfg : RCfg) : Prop :=
  ∀ t p s, '\n' ∉ p → '\n' ∉ s → AllLines (PfxOK p s) (cfg.wrap t p s ++ ['\n'])

/-- what a block leaves behind: its lines keep the discipline, the next first-line prefix is one of the two
prefixes, the continuation prefix is unchanged -/
def PDOut (st : RState) (r : Str × RState) : Prop :=
  AllLines (PfxOK st.pfx st.snd) r.1 ∧ (r.2.pfx = st.pfx ∨ r.2.pfx = st.snd) ∧ r.2.snd = st.snd

theorem mem_replicate_ne {c d : Char} {n : Nat} (h : c ≠ d) : d ∉ List.replicate n c := by
  intro hm
  exact h (List.eq_of_mem_replicate hm).symm

theorem AllLines.pfxLine {p s x : Str} (hp : '\n' ∉ p) (hx : '\n' ∉ x) : AllLines (PfxOK p s) (p ++ x ++ ['\n']) :=
  .single (by simp [hp, hx]) (PfxOK.of_pfx p s x)

/-- the blank line of a container: its continuation prefix without trailing whitespace -/
theorem AllLines.blankLine {p s : Str} (hs : '\n' ∉ s) : AllLines (PfxOK p s) (rstrip s ++ ['\n']) :=
  .single (no_nl_rstrip hs) (.of_rsnd p s)

theorem pd_code (st : RState) (content lang extra : Str) (isFenced : Bool) (fch : Char) (flen : Nat)
    (hp : '\n' ∉ st.pfx) (hs : '\n' ∉ st.snd) (hl : '\n' ∉ lang) (he : '\n' ∉ extra) (hf : fch ≠ '\n') :
    AllLines (PfxOK st.pfx st.snd) (renderCodeLines st content lang extra isFenced fch flen) := by
  unfold renderCodeLines
  apply allLines_joinWith _ (by simp)
  intro l hmem
  have hfence : ∀ n, '\n' ∉ List.replicate n fch := fun n => mem_replicate_ne hf
  simp only [List.mem_append, List.mem_singleton, List.mem_map] at hmem
  rcases hmem with (rfl | ⟨x, hx, rfl⟩) | rfl
  · refine ⟨?_, by rw [List.append_assoc]; exact PfxOK.of_pfx _ _ _⟩
    simp only [List.mem_append, hp, hfence, false_or]
    split
    · simp
    · split <;> simp [hl, he]
  · split
    · exact ⟨no_nl_rstrip hs, .of_rsnd _ _⟩
    · have hxn : '\n' ∉ x := by
        split at hx
        · simp at hx
        · exact pySplitNl_no_nl _ x hx
      exact ⟨by simp [hs, hxn], PfxOK.of_snd _ _ _⟩
  · exact ⟨by simp [hs, hfence], PfxOK.of_snd _ _ _⟩

theorem natToStr_no_nl (n : Nat) : '\n' ∉ natToStr n := by
  intro h
  have h' : '\n' ∈ Nat.toDigits 10 n := by
    rwa [show natToStr n = Nat.toDigits 10 n from Nat.toList_repr] at h
  exact absurd (Nat.isDigit_of_mem_toDigits (by decide) (by decide) h') (by decide)

theorem itemPrefix_no_nl (o : Bool) (start i : Nat) (bl : Str) (h : '\n' ∉ bl) :
    '\n' ∉ (itemPrefix o start i bl).1 ∧ '\n' ∉ (itemPrefix o start i bl).2 := by
  unfold itemPrefix
  split
  · exact ⟨by simp [natToStr_no_nl], mem_replicate_ne (by decide)⟩
  · exact ⟨by simp [h], by simp⟩

/-- the separator line in front of a list item -/
theorem pd_itemSep (st : RState) (hs : '\n' ∉ st.snd) : AllLines (PfxOK st.pfx st.snd)
    (if st.listTight = true then [] else if st.suppress = true then [] else rstrip st.snd ++ ['\n']) := by
  split
  · exact .nil
  · split
    · exact .nil
    · exact .blankLine hs

/-- a heading: one line, and the container's blank line unless the text ends in a backslash -/
theorem pd_heading (cfg : RCfg) (st : RState) (level : Nat) (cs : List Inline) (sx : Bool)
    (hp : '\n' ∉ st.pfx) (hs : '\n' ∉ st.snd) : PDOut st (renderBlock cfg st (.heading level cs sx)) := by
  have hline := AllLines.pfxLine (s := st.snd)
    (x := List.replicate level '#' ++ ' ' :: unbreak (renderInlines cfg true [] cs).1) hp
    (by simp [unbreak_no_nl, mem_replicate_ne (show '#' ≠ '\n' by decide)])
  simp only [renderBlock]
  split
  · exact ⟨by simpa using hline, Or.inr rfl, rfl⟩
  · exact ⟨by simpa using hline.append (.blankLine hs), Or.inr rfl, rfl⟩

theorem pd_all (cfg : RCfg) (hw : WrapPD cfg) :
    (∀ (st : RState) (b : Block), plainBlock b = true → '\n' ∉ st.pfx → '\n' ∉ st.snd → PDOut st (renderBlock cfg st b)) ∧
    (∀ (st : RState) (bs : List Block), plainBlocks bs = true → '\n' ∉ st.pfx → '\n' ∉ st.snd → PDOut st (renderBlocks cfg st bs)) ∧
    (∀ (st : RState) (o : Bool) (s : Nat) (bl : Str) (i : Nat) (bs : List Block),
        plainBlocks bs = true → noNl bl = true → '\n' ∉ st.pfx → '\n' ∉ st.snd → PDOut st (renderItems cfg st o s bl i bs)) := by
  apply renderBlock.mutual_induct cfg
    (motive_1 := fun st b => plainBlock b = true → '\n' ∉ st.pfx → '\n' ∉ st.snd → PDOut st (renderBlock cfg st b))
    (motive_2 := fun st bs => plainBlocks bs = true → '\n' ∉ st.pfx → '\n' ∉ st.snd → PDOut st (renderBlocks cfg st bs))
    (motive_3 := fun st o s bl i bs => plainBlocks bs = true → noNl bl = true → '\n' ∉ st.pfx → '\n' ∉ st.snd →
      PDOut st (renderItems cfg st o s bl i bs))
  all_goals intros
  -- para
  case case1 =>
    rename_i st cs checked _ hp hs
    exact ⟨hw _ _ _ hp hs, Or.inr rfl, rfl⟩
  -- list
  case case2 =>
    rename_i st o s bl t items isTight ih hpl hp hs
    simp only [plainBlock, Bool.and_eq_true] at hpl
    have := ih hpl.2 hpl.1 hp hs
    exact ⟨this.1, Or.inr this.2.2, this.2.2⟩
  -- item
  case case3 =>
    rename_i st bs hE hpl hp hs
    simp only [renderBlock, PDOut, hE, if_true]
    refine ⟨?_, Or.inr trivial, trivial⟩
    rw [List.append_assoc]
    exact (pd_itemSep st hs).append (.single (no_nl_rstrip hp) (Or.inr (Or.inl (List.prefix_refl _))))
  case case4 =>
    rename_i st bs st1 hE ih hpl hp hs
    have := ih hpl hp hs
    simp only [renderBlock, PDOut, hE] at this ⊢
    exact ⟨(pd_itemSep st hs).append this.1, this.2.1, this.2.2⟩
  -- quote
  case case5 =>
    rename_i st bs inner ih hpl hp hs
    have := ih hpl (by simp [inner, hp]) (by simp [inner, hs])
    refine ⟨?_, Or.inr rfl, rfl⟩
    exact (this.1.mono fun L h => h.container).of_cut (Or.inl rfl) (cut_stripTrailingBlank _ _)
  -- alert
  case case6 =>
    rename_i st ty bs inner ih hpl hp hs
    simp only [plainBlock, Bool.and_eq_true, noNl_iff] at hpl
    have := ih hpl.2 (by simp [inner, hs]) (by simp [inner, hs])
    have h1 : AllLines (PfxOK st.pfx st.snd) (renderBlocks cfg inner bs).1 :=
      this.1.mono fun L h => PfxOK.next (Or.inr rfl) (p := st.pfx) h.container
    have hhead : AllLines (PfxOK st.pfx st.snd) (st.pfx ++ "> [!".toList ++ ty ++ "]\n".toList) := by
      simpa using AllLines.pfxLine (s := st.snd) (x := "> [!".toList ++ ty ++ "]".toList) hp (by simp [hpl.1])
    refine ⟨hhead.append ?_, Or.inr rfl, rfl⟩
    split
    · exact .nil
    · exact h1.of_cut (Or.inl rfl) (cut_stripTrailingBlank _ _)
  -- fenced / indented code
  case case7 =>
    rename_i st lang extra content fch flen hpl hp hs
    simp only [plainBlock, Bool.and_eq_true, noNl_iff, bne_iff_ne] at hpl
    exact ⟨pd_code st content lang extra true fch flen hp hs hpl.1.1 hpl.1.2 hpl.2, Or.inr rfl, rfl⟩
  case case8 =>
    rename_i st content _ hp hs
    exact ⟨pd_code st content [] [] false '`' 3 hp hs (by simp) (by simp) (by decide), Or.inr rfl, rfl⟩
  -- thematic break
  case case9 =>
    rename_i st _ hp hs
    have hr : '\n' ∉ ruleText st.pfx := by
      simp only [ruleText]; split <;> decide
    exact ⟨.pfxLine hp hr, Or.inr rfl, rfl⟩
  -- heading
  case case10 | case11 => rename_i hp hs; exact pd_heading cfg _ _ _ _ hp hs
  -- blank line
  case case12 =>
    rename_i st hskip _ hp hs
    simp only [renderBlock, PDOut, hskip, if_true]
    exact ⟨.nil, Or.inl trivial, trivial⟩
  case case13 =>
    rename_i st hskip _ hp hs
    simp only [renderBlock, PDOut, if_neg hskip]
    refine ⟨?_, Or.inr trivial, trivial⟩
    split
    · exact .single (body := []) (by simp) (Or.inl rfl)
    · exact .single hp (by simpa using PfxOK.of_pfx st.pfx st.snd [])
  -- link reference definition and table: excluded
  case case14 | case16 => rename_i hpl _ _; simp [plainBlock] at hpl
  -- footnote definition
  case case15 =>
    rename_i st label bs inner ih hpl hp hs
    simp only [plainBlock, Bool.and_eq_true, noNl_iff] at hpl
    have := ih hpl.2 (by simp [inner, hp, hpl.1]) (by simp [inner, hs])
    have h1 : AllLines (PfxOK st.pfx st.snd) (renderBlocks cfg inner bs).1 :=
      this.1.mono fun L h => PfxOK.container (m := "[^".toList ++ label ++ "]: ".toList) (by simpa [inner] using h)
    refine ⟨?_, Or.inr rfl, rfl⟩
    show AllLines _ (rstripNl (renderBlocks cfg inner bs).1 ++ ['\n', '\n'])
    simpa using (h1.of_cut (Or.inl rfl) (cut_rstripNl _)).append (.single (body := []) (by simp) (Or.inl rfl))
  -- sequences
  case case17 | case19 => exact ⟨.nil, Or.inl rfl, rfl⟩
  case case18 =>
    rename_i st b rest r ih2 ih1 hpl hp hs
    simp only [plainBlocks, Bool.and_eq_true] at hpl
    obtain ⟨h2, h2p, h2s⟩ := ih2 hpl.1 hp hs
    obtain ⟨h1, h1p, h1s⟩ := ih1 hpl.2 (by rcases h2p with e | e <;> (rw [e]; assumption)) (by rw [h2s]; exact hs)
    refine ⟨h2.append (h1.mono fun L h => PfxOK.next h2p (h2s ▸ h)), ?_, h1s.trans h2s⟩
    rcases h1p with e | e
    · exact e ▸ h2p
    · exact Or.inr (e.trans h2s)
  case case20 =>
    rename_i st o start bl i b rest p sup r ih2 ih1 hpl hbl hp hs
    simp only [plainBlocks, Bool.and_eq_true] at hpl
    have hip := itemPrefix_no_nl o start i bl (noNl_iff.1 hbl)
    obtain ⟨h2, -, -⟩ := ih2 hpl.1 (by simp [p, hp, hip.1]) (by simp [p, hs, hip.2])
    obtain ⟨h1, h1p, h1s⟩ := ih1 hpl.2 hbl hs hs
    exact ⟨(h2.mono fun L h => h.container).append (h1.mono fun L h => PfxOK.next (Or.inr rfl) h),
      Or.inr (h1p.elim id id), h1s⟩

end FM
