import FM.Model.Resolver
/-
  Helper lemmas for the resolver model: the traversal against its specification, the path order,
  sorted insertion.
-/
namespace FM.Res

/-- SPEC of directory traversal: a path is listed iff it is a regular file that passes the file
filters, reached from the children `cs` of the directory at `parent` through directories that are
not links and not excluded.  Only membership in the children lists is used. -/
inductive Kept (env : Env) : RelPath → List Node → RelPath → Prop
  | file {parent : RelPath} {cs : List Node} {name : Name} {size : Nat} {link : Bool} :
      Node.file name size link ∈ cs → fileOk env parent name size link = true →
      Kept env parent cs (parent ++ [name])
  | dir {parent : RelPath} {cs : List Node} {name : Name} {kids : List Node} {p : RelPath} :
      Node.dir name false kids ∈ cs → dirExcluded env parent name = false →
      Kept env (parent ++ [name]) kids p → Kept env parent cs p

theorem Kept.mono {env : Env} {parent : RelPath} {cs cs' : List Node} {p : RelPath}
    (h : Kept env parent cs p) (hm : ∀ n ∈ cs, n ∈ cs') : Kept env parent cs' p := by
  cases h with
  | file hmem hok => exact .file (hm _ hmem) hok
  | dir hmem hex hk => exact .dir (hm _ hmem) hex hk

mutual
  theorem walkNode_sound (env : Env) : ∀ (n : Node) (parent p : RelPath),
      p ∈ walkNode env parent n → Kept env parent [n] p
    | .file name size link, parent, p, h => by
      rw [walkNode] at h
      split at h
      next hok => cases List.mem_singleton.1 h; exact .file List.mem_cons_self hok
      next => cases h
    | .dir name link kids, parent, p, h => by
      rw [walkNode] at h
      split at h
      next => cases h
      next hc =>
        simp only [Bool.or_eq_true, not_or, Bool.not_eq_true] at hc
        obtain ⟨rfl, hex⟩ := hc
        exact .dir List.mem_cons_self hex (walkNodes_sound env kids _ p h)
  theorem walkNodes_sound (env : Env) : ∀ (cs : List Node) (parent p : RelPath),
      p ∈ walkNodes env parent cs → Kept env parent cs p
    | [], _, _, h => by cases h
    | n :: ns, parent, p, h => by
      rw [walkNodes] at h
      rcases List.mem_append.1 h with h | h
      · exact (walkNode_sound env n parent p h).mono (by simp)
      · exact (walkNodes_sound env ns parent p h).mono fun m hm => List.mem_cons_of_mem _ hm
end

theorem walkNodes_eq_flatMap (env : Env) (parent : RelPath) :
    ∀ cs : List Node, walkNodes env parent cs = cs.flatMap (walkNode env parent)
  | [] => rfl
  | n :: ns => by rw [walkNodes, walkNodes_eq_flatMap env parent ns, List.flatMap_cons]

theorem walkNodes_complete (env : Env) {parent : RelPath} {cs : List Node} {p : RelPath}
    (h : Kept env parent cs p) : p ∈ walkNodes env parent cs := by
  rw [walkNodes_eq_flatMap]
  induction h with
  | file hmem hok => exact List.mem_flatMap.2 ⟨_, hmem, by simp [walkNode, hok]⟩
  | dir hmem hex _ ih => exact List.mem_flatMap.2 ⟨_, hmem, by simpa [walkNode, hex, walkNodes_eq_flatMap] using ih⟩

theorem mem_walkNodes_iff (env : Env) (parent : RelPath) (cs : List Node) (p : RelPath) :
    p ∈ walkNodes env parent cs ↔ Kept env parent cs p :=
  ⟨walkNodes_sound env cs parent p, walkNodes_complete env⟩

mutual
  theorem walkNode_congr {env env' : Env}
      (hf : ∀ parent name size link, fileOk env parent name size link = fileOk env' parent name size link)
      (hd : ∀ parent name, dirExcluded env parent name = dirExcluded env' parent name) :
      ∀ (n : Node) (parent : RelPath), walkNode env parent n = walkNode env' parent n
    | .file .., _ => by rw [walkNode, walkNode, hf]
    | .dir _ _ kids, _ => by rw [walkNode, walkNode, hd, walkNodes_congr hf hd kids]
  /-- the traversal sees the environment only through the file filter and the directory filter -/
  theorem walkNodes_congr {env env' : Env}
      (hf : ∀ parent name size link, fileOk env parent name size link = fileOk env' parent name size link)
      (hd : ∀ parent name, dirExcluded env parent name = dirExcluded env' parent name) :
      ∀ (cs : List Node) (parent : RelPath), walkNodes env parent cs = walkNodes env' parent cs
    | [], _ => by rw [walkNodes, walkNodes]
    | n :: ns, _ => by rw [walkNodes, walkNodes, walkNode_congr hf hd n, walkNodes_congr hf hd ns]
end

theorem fileOk_iff {env : Env} {parent : RelPath} {name : Name} {size : Nat} {link : Bool} :
    fileOk env parent name size link = true ↔
      env.incl name = true ∧ link = false ∧ tooBig env size = false ∧
      (env.respectGi = true → lastVerdict (gitChain env parent) (parent ++ [name]) false = false) ∧
      toolMatches env (posix (parent ++ [name])) = false := by
  simp [fileOk, and_assoc, Decidable.or_iff_not_imp_left]

theorem explicitOk_iff (excl : List Nat → Bool) (force : Bool) (maxSize : Nat) (parts : List Name) (name : Name)
    (size : Nat) :
    explicitOk excl force maxSize parts name size = true ↔
      ¬((force = true ∧ (excl name = true ∨ ∃ p ∈ parts, excl (p ++ [47]) = true)) ∨ (maxSize ≠ 0 ∧ size > maxSize)) := by
  simp [explicitOk, Decidable.or_iff_not_imp_left]

/-- a strict total order given as a Boolean relation -/
structure StrictOrder {α : Type} (lt : α → α → Bool) : Prop where
  irrefl : ∀ a, lt a a = false
  trans : ∀ a b c, lt a b = true → lt b c = true → lt a c = true
  tri : ∀ a b, lt a b = false → lt b a = false → a = b

theorem StrictOrder.asymm {α : Type} {lt : α → α → Bool} (h : StrictOrder lt) {a b : α} (hab : lt a b = true) :
    lt b a = false :=
  Bool.eq_false_iff.2 fun hba => by simpa [h.irrefl] using h.trans a b a hab hba

section Lex
variable {α : Type} [BEq α] [LawfulBEq α] {lt : α → α → Bool}

theorem lex_irrefl (hi : ∀ a, lt a a = false) : ∀ l : List α, lex lt l l = false
  | [] => rfl
  | a :: as => by simp [lex, hi, lex_irrefl hi as]

theorem lex_trans (ht : ∀ a b c, lt a b = true → lt b c = true → lt a c = true) :
    ∀ (x y z : List α), lex lt x y = true → lex lt y z = true → lex lt x z = true
  | x, [], _, h, _ => by cases x <;> simp [lex] at h
  | _, _ :: _, [], _, h => by simp [lex] at h
  | [], _ :: _, _ :: _, _, _ => rfl
  | a :: as, b :: bs, c :: cs, h1, h2 => by
    simp only [lex, Bool.or_eq_true, Bool.and_eq_true, beq_iff_eq] at h1 h2 ⊢
    rcases h1 with h1 | ⟨rfl, h1⟩ <;> rcases h2 with h2 | ⟨rfl, h2⟩
    · exact .inl (ht _ _ _ h1 h2)
    · exact .inl h1
    · exact .inl h2
    · exact .inr ⟨rfl, lex_trans ht as bs cs h1 h2⟩

theorem lex_tri (htri : ∀ a b, lt a b = false → lt b a = false → a = b) :
    ∀ (x y : List α), lex lt x y = false → lex lt y x = false → x = y
  | [], [], _, _ => rfl
  | [], _ :: _, h, _ => by simp [lex] at h
  | _ :: _, [], _, h => by simp [lex] at h
  | a :: as, b :: bs, h1, h2 => by
    simp only [lex, Bool.or_eq_false_iff, Bool.and_eq_false_imp, beq_iff_eq] at h1 h2
    obtain rfl := htri a b h1.1 h2.1
    rw [lex_tri htri as bs (h1.2 rfl) (h2.2 rfl)]

theorem lex_order (h : StrictOrder lt) : StrictOrder (lex lt) :=
  ⟨lex_irrefl h.irrefl, lex_trans h.trans, lex_tri h.tri⟩
end Lex

theorem ltNat_order : StrictOrder ltNat where
  irrefl a := by simp [ltNat]
  trans a b c h1 h2 := by
    simp only [ltNat, decide_eq_true_eq] at *
    exact Nat.lt_trans h1 h2
  tri a b h1 h2 := by
    simp only [ltNat, decide_eq_false_iff_not, Nat.not_lt] at *
    exact Nat.le_antisymm h2 h1

theorem ltPath_order : StrictOrder ltPath := lex_order (lex_order ltNat_order)

/-- strictly increasing -/
def Sorted (l : List RelPath) : Prop := l.Pairwise fun a b => ltPath a b = true

theorem Sorted.nodup {l : List RelPath} (h : Sorted l) : l.Nodup :=
  h.imp fun hlt heq => by rw [heq, ltPath_order.irrefl] at hlt; cases hlt

theorem sorted_ext {l l' : List RelPath} (h1 : Sorted l) (h2 : Sorted l') (h : ∀ q, q ∈ l ↔ q ∈ l') : l = l' :=
  List.Perm.eq_of_pairwise (fun a b _ _ hab hba => by rw [ltPath_order.asymm hab] at hba; cases hba) h1 h2
    ((List.perm_ext_iff_of_nodup h1.nodup h2.nodup).2 h)

theorem mem_insertP (p q : RelPath) (l : List RelPath) : q ∈ insertP p l ↔ q = p ∨ q ∈ l := by
  fun_induction insertP p l <;> simp_all [or_left_comm]

theorem sorted_insertP (p : RelPath) (l : List RelPath) (h : Sorted l) : Sorted (insertP p l) := by
  unfold Sorted at *
  fun_induction insertP p l <;> simp_all [mem_insertP]
  -- what is left: `p` goes in front of `q`, or behind it
  next q _ hlt => exact fun a ha => ltPath_order.trans _ _ _ hlt (h.1 a ha)
  next q _ hnlt hne _ => exact Bool.of_not_eq_false fun hqp => hne (ltPath_order.tri p q hnlt hqp)

theorem mem_foldl_insertP (q : RelPath) (ps : List RelPath) :
    ∀ acc : List RelPath, q ∈ ps.foldl (fun acc p => insertP p acc) acc ↔ q ∈ ps ∨ q ∈ acc := by
  induction ps with
  | nil => simp
  | cons p ps ih => simp [ih, mem_insertP, or_assoc, or_left_comm]

theorem sorted_foldl_insertP (ps : List RelPath) :
    ∀ acc : List RelPath, Sorted acc → Sorted (ps.foldl (fun acc p => insertP p acc) acc) := by
  induction ps with
  | nil => exact fun _ h => h
  | cons p ps ih => exact fun acc h => ih _ (sorted_insertP p acc h)

end FM.Res
