import FM.Model.Render
/-
  Facts about helpers of the render model (`unbreak`, `minFenceLength`), the state invariant `Frame`, and
  the output invariant `NlOrEmpty` (every block renders to the empty string or to text ending in a newline).

  The three invariants of the renderer (`frame_all` and `ends_nl_all` here, `pd_all` in RenderPD) are
  each one application of `renderBlock.mutual_induct`, whose cases are used by number:
  1 para · 2 list · 3/4 item (empty / not) · 5 quote · 6 alert · 7 fenced · 8 indented · 9 hr ·
  10/11 heading (text ends in a backslash / not) · 12/13 blank (skipped / written) · 14 linkdef · 15 fndef ·
  16 table · 17/18 `renderBlocks` nil/cons · 19/20 `renderItems` nil/cons.
-/
namespace FM

theorem unbreak_no_nl (s : Str) : '\n' ∉ unbreak s := by
  fun_induction unbreak s <;> simp_all [eq_comm (a := '\n')]

theorem le_foldl_max {l : List Nat} {a x : Nat} (h : x ≤ a ∨ x ∈ l) : x ≤ l.foldl max a := by
  induction l generalizing a with
  | nil => simpa using h
  | cons y t ih =>
    refine ih ?_
    rcases h with h | h
    · exact Or.inl (by omega)
    · rcases List.mem_cons.1 h with rfl | h
      · exact Or.inl (by omega)
      · exact Or.inr h

/-- `_min_fence_length` exceeds the fence-like run at the start of every content line -/
theorem lt_minFenceLength {content l : Str} (ch : Char) (hl : l ∈ pySplitNl content) :
    fenceRunAtLineStart ch l < minFenceLength content ch := by
  have hle := le_foldl_max (a := 0) (Or.inr (List.mem_map_of_mem (f := fenceRunAtLineStart ch) hl))
  unfold minFenceLength
  generalize ((pySplitNl content).map (fenceRunAtLineStart ch)).foldl max 0 = m at hle ⊢
  by_cases hm : m = 0 <;> simp [hm] <;> omega

/-- The fields of the renderer state that every block must hand back unchanged. -/
def Frame (a b : RState) : Prop := b.snd = a.snd ∧ b.listTight = a.listTight

theorem frame_all (cfg : RCfg) :
    (∀ (st : RState) (b : Block), Frame st (renderBlock cfg st b).2) ∧
    (∀ (st : RState) (bs : List Block), Frame st (renderBlocks cfg st bs).2) ∧
    (∀ (st : RState) (o : Bool) (s : Nat) (bl : Str) (i : Nat) (bs : List Block),
        Frame st (renderItems cfg st o s bl i bs).2) := by
  apply renderBlock.mutual_induct cfg
    (motive_1 := fun st b => Frame st (renderBlock cfg st b).2)
    (motive_2 := fun st bs => Frame st (renderBlocks cfg st bs).2)
    (motive_3 := fun st o s bl i bs => Frame st (renderItems cfg st o s bl i bs).2)
  all_goals intros
  -- containers restore what they changed; sequences compose
  case case2 ih => exact ⟨ih.1, rfl⟩
  case case4 hE ih => simp only [renderBlock, hE]; exact ih
  case case5 ih => exact ⟨rfl, ih.2⟩
  case case6 ih => exact ⟨rfl, ih.2⟩
  case case15 ih => exact ⟨rfl, ih.2⟩
  case case18 ih1 ih2 => exact ⟨ih2.1.trans ih1.1, ih2.2.trans ih1.2⟩
  case case20 ih1 ih2 => exact ⟨ih2.1, ih2.2.trans ih1.2⟩
  -- leaf blocks touch neither field: empty item, heading, blank line (each with a two-way test), then the rest
  case case3 | case10 | case11 | case12 | case13 => simp only [renderBlock]; split <;> exact ⟨rfl, rfl⟩
  all_goals exact ⟨rfl, rfl⟩

/-- empty, or ends with a newline -/
def NlOrEmpty (s : Str) : Prop := s = [] ∨ s.getLast? = some '\n'

theorem NlOrEmpty.nil : NlOrEmpty [] := Or.inl rfl

theorem nl_append_right (a : Str) {b : Str} (hb : b.getLast? = some '\n') : NlOrEmpty (a ++ b) :=
  Or.inr (by simp [List.getLast?_append, hb])

theorem nl_snoc (s : Str) : NlOrEmpty (s ++ ['\n']) := nl_append_right s rfl

theorem NlOrEmpty.append {a b : Str} (ha : NlOrEmpty a) (hb : NlOrEmpty b) : NlOrEmpty (a ++ b) := by
  rcases hb with rfl | hb
  · simpa using ha
  · exact nl_append_right a hb

theorem rowLine_nl (cells : List Str) : (rowLine cells).getLast? = some '\n' := by
  unfold rowLine
  have h : (" |\n".toList).getLast? = some '\n' := by decide
  generalize "| ".toList ++ joinWith " | ".toList cells = x
  rw [List.getLast?_append, h]; rfl

theorem renderRows_nl (cfg : RCfg) (snd : Str) : ∀ (rows : List (List (List Inline))) (acc : Str),
    NlOrEmpty (renderRows cfg snd acc rows).1
  | [], _ => Or.inl rfl
  | row :: rest, acc => by
    simp only [renderRows]
    have h1 : NlOrEmpty (snd ++ rowLine (renderRow cfg acc row).1) := nl_append_right _ (rowLine_nl _)
    have := h1.append (renderRows_nl cfg snd rest (renderRow cfg acc row).2)
    simpa [List.append_assoc] using this

theorem joinWith_snoc_nl (ls : List Str) : NlOrEmpty (joinWith ['\n'] ls ++ ['\n']) := nl_snoc _

theorem ends_nl_all (cfg : RCfg) :
    (∀ (st : RState) (b : Block), NlOrEmpty (renderBlock cfg st b).1) ∧
    (∀ (st : RState) (bs : List Block), NlOrEmpty (renderBlocks cfg st bs).1) ∧
    (∀ (st : RState) (o : Bool) (s : Nat) (bl : Str) (i : Nat) (bs : List Block),
        NlOrEmpty (renderItems cfg st o s bl i bs).1) := by
  apply renderBlock.mutual_induct cfg
    (motive_1 := fun st b => NlOrEmpty (renderBlock cfg st b).1)
    (motive_2 := fun st bs => NlOrEmpty (renderBlocks cfg st bs).1)
    (motive_3 := fun st o s bl i bs => NlOrEmpty (renderItems cfg st o s bl i bs).1)
  all_goals intros
  -- containers and sequences
  case case2 ih => exact ih
  case case4 hE ih =>
    simp only [renderBlock, hE]
    refine NlOrEmpty.append ?_ ih
    split
    · exact .nil
    · split
      · exact .nil
      · exact nl_snoc _
  case case18 ih1 ih2 => exact ih1.append ih2
  case case20 ih1 ih2 => exact ih1.append ih2
  case case17 | case19 => exact .nil
  -- blocks whose text is written as `… ++ "\n"`
  case case1 | case5 | case7 | case8 | case9 | case14 => exact nl_snoc _
  case case3 hE => simp only [renderBlock, hE]; exact nl_snoc _
  case case6 =>
    simp only [renderBlock]
    split
    · rw [List.append_nil]; exact nl_append_right _ (by decide)
    · exact nl_append_right _ (by simp)
  case case10 | case11 =>
    simp only [renderBlock]
    split
    · exact nl_snoc _
    · exact nl_append_right _ (by simp)
  case case12 h => simp only [renderBlock, h, if_true]; exact .nil
  case case13 h =>
    simp only [renderBlock, if_neg h]
    split
    · exact nl_snoc []
    · exact nl_snoc _
  case case15 => exact nl_append_right _ (show ['\n', '\n'].getLast? = some '\n' from rfl)
  case case16 =>
    rename_i st head delims rows
    -- the delimiter row is written like any other row
    have hd : NlOrEmpty (st.snd ++ rowLine (delims.map normalizeDelim)) := nl_append_right _ (rowLine_nl _)
    have h1 : NlOrEmpty (st.pfx ++ rowLine (renderRow cfg st.acc head).1) := nl_append_right _ (rowLine_nl _)
    have := (h1.append hd).append (renderRows_nl cfg st.snd rows (renderRow cfg st.acc head).2)
    simpa [renderBlock, rowLine, List.append_assoc] using this

end FM
