import FM.Model.Placeholder
/-
  Helper lemmas for the placeholder round trip.
-/
namespace FM

theorem parseDigits_append_singleton (ds : Str) (c : Char) :
    parseDigits (ds ++ [c]) = parseDigits ds * 10 + (c.toNat - 48) := by
  simp [parseDigits, List.foldl_append]

/-- `int(str(n)) = n` -/
theorem parseDigits_toDigits : ∀ (n : Nat), parseDigits (Nat.toDigits 10 n) = n := by
  intro n
  induction n using Nat.strongRecOn with
  | _ n ih =>
    by_cases h : n < 10
    · rw [Nat.toDigits_of_lt_base h]
      simp [parseDigits, Nat.toNat_digitChar_sub_48_of_lt_ten h]
    · have h10 : 10 ≤ n := Nat.le_of_not_lt h
      rw [Nat.toDigits_of_base_le (by decide) h10, parseDigits_append_singleton,
        ih (n / 10) (Nat.div_lt_self (by omega) (by decide)),
        Nat.toNat_digitChar_sub_48_of_lt_ten (Nat.mod_lt _ (by decide))]
      omega

theorem matchPH_placeholder (k : Nat) (t : Str) : matchPH (placeholder k ++ t) = some (k, t) := by
  have hd : ∀ c ∈ Nat.toDigits 10 k, c.isDigit = true :=
    fun c hc => Nat.isDigit_of_mem_toDigits (by decide) (by decide) hc
  have htw : (Nat.toDigits 10 k ++ nul :: t).takeWhile Char.isDigit = Nat.toDigits 10 k := by
    simp [List.takeWhile_append_of_pos hd, show nul.isDigit = false by decide]
  simp [placeholder, matchPH, htw, parseDigits_toDigits, Nat.toDigits_ne_nil]

theorem matchPH_none_of_ne {c : Char} (rest : Str) (h : c ≠ nul) : matchPH (c :: rest) = none := by
  unfold matchPH
  split
  · next heq => cases heq; simp [h]
  · rfl

theorem restorePH_match {cs : List Str} {s tail a : Str} {i : Nat} (f : Nat)
    (hm : matchPH s = some (i, tail)) (ha : cs[i]? = some a) :
    restorePH cs (f + 1) s = a ++ restorePH cs f tail := by
  cases s with
  | nil => simp [matchPH] at hm
  | cons c rest => simp [restorePH, hm, ha]

theorem placeholder_length_pos (k : Nat) : 0 < (placeholder k).length := by simp [placeholder]

theorem restorePH_text (cs : List Str) {s : Str} (t : Str) (f : Nat) (hn : nul ∉ s) :
    restorePH cs (s.length + f) (s ++ t) = s ++ restorePH cs f t := by
  induction s with
  | nil => simp
  | cons c s ih =>
    simp only [List.mem_cons, not_or] at hn
    simp [Nat.add_right_comm _ 1, restorePH, matchPH_none_of_ne _ (Ne.symm hn.1), ih hn.2]

end FM
