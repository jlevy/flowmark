import FM.Base.Str
/-
  Lemmas about the string vocabulary of `Base/Str.lean`: splitting on newlines and joining again,
  stripping, whitespace collapsing and `str.split()`.
-/
namespace FM

theorem isPySpace_space : isPySpace ' ' = true := by decide
theorem isPySpace_nl : isPySpace '\n' = true := by decide

theorem joinWith_cons_cons (sep a b : Str) (rest : List Str) :
    joinWith sep (a :: b :: rest) = a ++ sep ++ joinWith sep (b :: rest) := rfl

theorem joinWith_append (sep : Str) : ∀ (a b : List Str), a ≠ [] → b ≠ [] →
    joinWith sep (a ++ b) = joinWith sep a ++ sep ++ joinWith sep b
  | [x], y :: b, _, _ => by simp [joinWith]
  | x :: x' :: a, b, _, hb => by
    simp only [List.cons_append, joinWith_cons_cons, List.append_assoc]
    rw [← List.cons_append, joinWith_append sep (x' :: a) b (by simp) hb]
    simp

theorem splitNl_ne_nil (s cur : Str) : splitNl s cur ≠ [] := by
  fun_induction splitNl s cur <;> simp_all

theorem pySplitNl_ne_nil (s : Str) : pySplitNl s ≠ [] := splitNl_ne_nil s []

theorem splitNl_line (l cur rest : Str) (h : '\n' ∉ l) :
    splitNl (l ++ '\n' :: rest) cur = (cur.reverse ++ l) :: splitNl rest [] := by
  induction l generalizing cur with
  | nil => simp [splitNl]
  | cons c cs ih =>
    simp only [List.mem_cons, not_or] at h
    simp [splitNl, Ne.symm h.1, ih _ h.2]

theorem splitNl_snoc (s cur : Str) : splitNl (s ++ ['\n']) cur = splitNl s cur ++ [[]] := by
  fun_induction splitNl s cur <;> simp_all [splitNl]

theorem join_splitNl (s cur : Str) : joinWith ['\n'] (splitNl s cur) = cur.reverse ++ s := by
  fun_induction splitNl s cur with
  | case1 => simp [joinWith]
  | case2 c cs cur h ih =>
    obtain ⟨a, rest, hs⟩ := List.exists_cons_of_ne_nil (splitNl_ne_nil cs [])
    rw [hs, joinWith_cons_cons, ← hs, ih]; simp_all
  | case3 c cs cur h ih => simp [ih]

theorem join_pySplitNl (s : Str) : joinWith ['\n'] (pySplitNl s) = s := by
  simpa [pySplitNl] using join_splitNl s []

theorem splitNl_no_nl (s cur : Str) (hc : '\n' ∉ cur) : ∀ l ∈ splitNl s cur, '\n' ∉ l := by
  fun_induction splitNl s cur <;> simp_all [eq_comm (a := '\n')]

theorem pySplitNl_no_nl (s : Str) : ∀ l ∈ pySplitNl s, '\n' ∉ l := splitNl_no_nl s [] (by simp)

theorem splitNl_getLast (s cur : Str) (h : (splitNl s cur).getLast? = some []) :
    s.getLast? = some '\n' ∨ (s = [] ∧ cur = []) := by
  fun_induction splitNl s cur with
  | case1 cur => simpa using h
  | case2 c cs cur hc ih =>
    rw [List.getLast?_cons_of_ne_nil (splitNl_ne_nil cs [])] at h
    rcases ih h with h1 | ⟨rfl, -⟩
    · exact .inl (by rw [List.getLast?_cons_of_ne_nil (by rintro rfl; simp at h1)]; exact h1)
    · exact .inl (by simpa using hc)
  | case3 c cs cur hc ih =>
    rcases ih h with h1 | ⟨-, h2⟩
    · exact .inl (by rw [List.getLast?_cons_of_ne_nil (by rintro rfl; simp at h1)]; exact h1)
    · simp at h2

theorem lineLen_append {a b : Line} (ha : a ≠ []) (hb : b ≠ []) :
    lineLen (a ++ b) = lineLen a + 1 + lineLen b := by
  induction a with
  | nil => exact absurd rfl ha
  | cons x t ih =>
    cases t with
    | nil => cases b with
      | nil => exact absurd rfl hb
      | cons y u => rfl
    | cons x2 t2 =>
      have := ih (List.cons_ne_nil _ _)
      simp only [List.cons_append, lineLen] at this ⊢
      omega

theorem lineLen_snoc {cur : Line} (w : Word) (h : cur ≠ []) :
    lineLen (cur ++ [w]) = lineLen cur + 1 + w.length :=
  lineLen_append h (List.cons_ne_nil _ _)

theorem joinSp_length : ∀ (l : Line), (joinSp l).length = lineLen l
  | [] => rfl
  | [w] => rfl
  | w :: v :: rest => by
    simp only [joinSp, lineLen, List.length_append, List.length_cons]
    rw [joinSp_length (v :: rest)]; omega

theorem rstrip_prefix (s : Str) : rstrip s <+: s := by
  have := List.reverse_prefix.2 (List.dropWhile_suffix (l := s.reverse) isPySpace)
  simpa [rstrip] using this

theorem rstrip_prefix_append (s x : Str) : rstrip s <+: rstrip (s ++ x) := by
  unfold rstrip
  rw [List.reverse_append, List.dropWhile_append]
  split
  · exact List.prefix_refl _
  · rw [List.reverse_append, List.reverse_reverse]
    exact (rstrip_prefix s).trans (List.prefix_append _ _)

theorem no_nl_rstrip {s : Str} (h : '\n' ∉ s) : '\n' ∉ rstrip s :=
  fun ha => h ((rstrip_prefix s).subset ha)

theorem endsWith_spec {t p : Str} (h : endsWith t p = true) : ∃ r, t = r ++ p := by
  obtain ⟨r, hr⟩ := List.isPrefixOf_iff_prefix.1 h
  exact ⟨r.reverse, by simpa using (congrArg List.reverse hr).symm⟩

/-- what stands behind a text is all `collapseAux` sees of it: two continuations that collapse
alike from either state may be exchanged behind any text -/
theorem collapseAux_congr {x y : Str} (h : ∀ b, collapseAux b x = collapseAux b y) :
    ∀ (a : Str) (b : Bool), collapseAux b (a ++ x) = collapseAux b (a ++ y)
  | [], b => h b
  | c :: a, b => by simp only [List.cons_append, collapseAux, collapseAux_congr h a]

theorem collapseAux_ws (b : Bool) {w : Char} (hw : isPySpace w = true) (r : Str) :
    collapseAux b (w :: r) = (if b then [] else [' ']) ++ collapseAux true r := by
  cases b <;> simp [collapseAux, hw]

/-- replacing one whitespace character by another (a line break moved to another space) -/
theorem collapseWs_swap (a r : Str) (w1 w2 : Char) (h1 : isPySpace w1 = true) (h2 : isPySpace w2 = true) :
    collapseWs (a ++ w1 :: r) = collapseWs (a ++ w2 :: r) :=
  collapseAux_congr (fun b => by rw [collapseAux_ws b h1, collapseAux_ws b h2]) a false

/-- multiplying whitespace (runs of spaces, re-indented continuation lines) -/
theorem collapseWs_dup (a r : Str) (w1 w2 : Char) (h1 : isPySpace w1 = true) (h2 : isPySpace w2 = true) :
    collapseWs (a ++ w1 :: w2 :: r) = collapseWs (a ++ w1 :: r) :=
  collapseAux_congr (fun b => by rw [collapseAux_ws b h1, collapseAux_ws b h1, collapseAux_ws true h2]; rfl) a false

theorem splitOnP_collapse (s : Str) (b : Bool) (cur : Word) (hb : b = true → cur = []) :
    splitOnP isPySpace (collapseAux b s) cur = splitOnP isPySpace s cur := by
  fun_induction collapseAux b s generalizing cur <;> simp_all [splitOnP, isPySpace_space]

theorem pySplit_collapse (s : Str) : pySplit (collapseWs s) = pySplit s :=
  splitOnP_collapse s false [] (by simp)

theorem splitOnP_map (f : Char → Char) (p : Char → Bool) (hf : ∀ c, p (f c) = p c)
    (hid : ∀ c, p c = false → f c = c) (s : Str) (cur : Word) :
    splitOnP p (s.map f) cur = splitOnP p s cur := by
  fun_induction splitOnP p s cur <;> simp_all [splitOnP]

theorem pySplit_nlToSp (s : Str) : pySplit (s.map fun c => if c == '\n' then ' ' else c) = pySplit s := by
  apply splitOnP_map
  · intro c; split
    · rename_i h; rw [beq_iff_eq.1 h, isPySpace_space, isPySpace_nl]
    · rfl
  · intro c hc; split
    · rename_i h; rw [beq_iff_eq.1 h, isPySpace_nl] at hc; cases hc
    · rfl

end FM
