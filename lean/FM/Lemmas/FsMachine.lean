import FM.Model.FsMachine
/-
  The file-system machine: what an operation list leaves alone (frame), and the state after phase 1 of a job.
-/
namespace FM.Fs

theorem exec_cons (s : State) (op : Op) (ops : List Op) : exec s (op :: ops) = exec (apply s op) ops := rfl

theorem exec_append (s : State) (a b : List Op) : exec s (a ++ b) = exec (exec s a) b :=
  List.foldl_append

theorem apply_frame {q : Path} {op : Op} (h : q ∉ op.paths) (s : State) : apply s op q = s q := by
  cases op <;> simp_all [apply, Op.paths]

theorem exec_frame {q : Path} : ∀ {ops : List Op} (s : State), (∀ op ∈ ops, q ∉ op.paths) → exec s ops q = s q
  | [], _, _ => rfl
  | op :: ops, s, h => by
    rw [exec_cons, exec_frame _ fun o ho => h o (List.mem_cons_of_mem _ ho), apply_frame (h op List.mem_cons_self)]

theorem writeOps_paths (j : Job) : ∀ op ∈ j.writeOps, op.paths = [j.tmp] := by
  intro op h
  simp only [Job.writeOps, List.mem_cons, List.mem_map] at h
  rcases h with rfl | ⟨c, _, rfl⟩ <;> rfl

theorem ops_paths (j : Job) : ∀ op ∈ j.ops, op.paths ⊆ j.paths := by
  intro op hop
  rcases List.mem_append.1 hop with hop | hop
  · simp [writeOps_paths j op hop, Job.paths]
  · simp [Job.moveOps] at hop
    rcases hop with ⟨_, rfl⟩ | rfl <;> simp [Op.paths, Job.paths]

theorem runOps_cons (j : Job) (jobs : List Job) : runOps (j :: jobs) = j.ops ++ runOps jobs := rfl

theorem runOps_append (a b : List Job) : runOps (a ++ b) = runOps a ++ runOps b := List.flatMap_append

theorem exec_run_frame {q : Path} {jobs : List Job} (h : ∀ j ∈ jobs, q ∉ j.paths) (s : State) (k : Nat) :
    exec s ((runOps jobs).take k) q = s q :=
  exec_frame s fun op hop hq => by
    obtain ⟨j, hj, hop⟩ := List.mem_flatMap.1 (List.mem_of_mem_take hop)
    exact h j hj (ops_paths j op hop hq)

theorem exec_appends (p : Path) : ∀ (cs : List Content) (s : State) (c0 : Content), s p = some c0 →
    exec s (cs.map (.append p)) = fun q => if q = p then some (c0 ++ cs.flatten) else s q
  | [], s, c0, h => by funext q; by_cases hq : q = p <;> simp [exec, hq, h]
  | c :: cs, s, c0, h => by
    rw [List.map_cons, exec_cons, exec_appends p cs _ (c0 ++ c) (by simp [apply, h])]
    funext q; by_cases hq : q = p <;> simp [apply, hq]

theorem exec_writeOps (j : Job) (s : State) :
    exec s j.writeOps = fun q => if q = j.tmp then some j.new else s q := by
  rw [Job.writeOps, exec_cons, exec_appends j.tmp j.chunks _ [] (by simp [apply])]
  funext q; by_cases hq : q = j.tmp <;> simp [apply, hq, Job.new]

end FM.Fs
