import FM.Model.Sentence
import FM.Lemmas.Wrap
/-
  Helper lemmas for the sentence fold: a step looks only at the last line (frame lemma), and what
  it produces is a greedy fill of the sentence, appended or glued to that line (`sentStep_shape`).
-/
namespace FM

theorem sentStep_snoc (c : SCfg) (first : Bool) (L : List Line) (l : Line) (s : List Word) :
    sentStep c first (L ++ [l]) s = L ++ sentStep c first [l] s := by
  simp only [sentStep, List.getLast?_concat, List.getLast?_singleton]
  split
  · cases pickWrapped c _ s with
    | nil => simp [mergeLast]
    | cons w0 rest => simp only [mergeLast]; split <;> simp
  · simp

theorem sentStep_frame (c : SCfg) (first : Bool) (pre suf : List Line) (s : List Word)
    (h : suf ≠ []) : sentStep c first (pre ++ suf) s = pre ++ sentStep c first suf s := by
  obtain ⟨init, l, rfl⟩ := (List.eq_nil_or_concat suf).resolve_left h
  rw [List.concat_eq_append, ← List.append_assoc, sentStep_snoc, sentStep_snoc c first init,
    List.append_assoc]

theorem pickWrapped_eq (c : SCfg) (col0 : Nat) (s : List Word) :
    ∃ col, pickWrapped c col0 s = fill c.W c.s0 c.md col s := by
  unfold pickWrapped
  cases hf : fill c.W c.s0 c.md col0 s with
  | nil => exact ⟨col0, by simp [hf]⟩
  | cons w0 rest =>
    simp only
    split
    · exact ⟨c.s0, rfl⟩
    · exact ⟨col0, by simp [hf]⟩

/-- What a step produces: the lines of a greedy fill of the sentence alone (from some column),
appended — or, below a last line shorter than `minLen` with room for the first of them, glued to it. -/
theorem sentStep_shape (c : SCfg) (first : Bool) (lines : List Line) (s : List Word) :
    ∃ col, sentStep c first lines s = lines ++ fill c.W c.s0 c.md col s ∨
      ∃ init last w0 rest, lines = init ++ [last] ∧ lineLen last < c.minLen ∧
        fill c.W c.s0 c.md col s = w0 :: rest ∧ lineLen last + 1 + lineLen w0 ≤ c.W ∧
        sentStep c first lines s = init ++ (last ++ w0) :: rest := by
  rcases List.eq_nil_or_concat lines with rfl | ⟨init, last, rfl⟩
  · exact ⟨if first then c.i0 else c.s0, .inl (by simp [sentStep])⟩
  · rw [List.concat_eq_append]
    by_cases hshort : lineLen last < c.minLen
    · obtain ⟨col, hp⟩ := pickWrapped_eq c ((if first then c.i0 else c.s0) + lineLen last) s
      refine ⟨col, ?_⟩
      cases hw : fill c.W c.s0 c.md col s with
      | nil => exact .inl (by simp [sentStep, hshort, hp, hw, mergeLast])
      | cons w0 rest =>
        by_cases hm : lineLen last + 1 + lineLen w0 ≤ c.W
        · exact .inr ⟨init, last, w0, rest, rfl, hshort, rfl, hm,
            by simp [sentStep, hshort, hp, hw, mergeLast, hm]⟩
        · exact .inl (by simp [sentStep, hshort, hp, hw, mergeLast, hm])
    · exact ⟨if first then c.i0 else c.s0, .inl (by simp [sentStep, hshort])⟩

theorem sentStep_ne_nil (c : SCfg) (first : Bool) (lines : List Line) (s : List Word)
    (h : lines ≠ []) : sentStep c first lines s ≠ [] := by
  obtain ⟨col, h' | ⟨init, last, w0, rest, -, -, -, -, h'⟩⟩ := sentStep_shape c first lines s <;>
    simp [h', h]

theorem foldSent_frame (c : SCfg) : ∀ (ss : List (List Word)) (first : Bool) (pre suf : List Line),
    suf ≠ [] → foldSent c first (pre ++ suf) ss = pre ++ foldSent c first suf ss := by
  intro ss
  induction ss with
  | nil => intros; rfl
  | cons s ss ih =>
    intro first pre suf h
    simp only [foldSent]
    rw [sentStep_frame c first pre suf s h]
    exact ih false pre _ (sentStep_ne_nil c first suf s h)

theorem foldSent_dropLast_prefix (c : SCfg) (ss : List (List Word)) (first : Bool)
    (lines : List Line) : lines.dropLast <+: foldSent c first lines ss := by
  rcases List.eq_nil_or_concat lines with rfl | ⟨init, l, rfl⟩
  · exact List.nil_prefix
  · rw [List.concat_eq_append, List.dropLast_concat, foldSent_frame c ss first init [l] (by simp)]
    exact List.prefix_append _ _

theorem foldSent_append (c : SCfg) : ∀ (a b : List (List Word)) (first : Bool) (lines : List Line),
    foldSent c first lines (a ++ b) =
      foldSent c (first && a.isEmpty) (foldSent c first lines a) b := by
  intro a
  induction a with
  | nil => intro b first lines; simp [foldSent]
  | cons s a ih =>
    intro b first lines
    simp only [List.cons_append, foldSent, List.isEmpty_cons, Bool.and_false]
    rw [ih b false]; simp

/-- A step from a state whose last line is long does not look at the state at all
(`first = false`: a sentence after the first starts at the continuation column). -/
theorem sentStep_long (c : SCfg) (L : List Line) (l : Line) (s : List Word)
    (h : c.minLen ≤ lineLen l) :
    sentStep c false (L ++ [l]) s = L ++ [l] ++ fill c.W c.s0 c.md c.s0 s := by
  simp [sentStep, Nat.not_lt.2 h]

theorem sentStep_nil (c : SCfg) (s : List Word) :
    sentStep c false [] s = fill c.W c.s0 c.md c.s0 s := by
  simp [sentStep]

/-- Within the width when measured from column 0, or a single unbreakable word. -/
def LineOK0 (W : Nat) (l : Line) : Prop := lineLen l ≤ W ∨ l.length = 1

theorem LineOK.ok0 {W c : Nat} {l : Line} (h : LineOK W c l) : LineOK0 W l :=
  h.imp (fun h => by omega) id

theorem BoundFrom.ok0 {W c c1 : Nat} {out : List Line} (h : BoundFrom W c c1 out) :
    ∀ l ∈ out, LineOK0 W l := by
  cases out with
  | nil => simp
  | cons a rest =>
    intro l hl
    rcases List.mem_cons.1 hl with rfl | hl
    · exact (h.1 l rfl).ok0
    · exact (h.2 l hl).ok0

/-- Appended lines are lines of a fill; a glued line passed the test `len(last) + 1 + len(w0) <= width`. -/
theorem sentStep_ok0 (c : SCfg) (first : Bool) (lines : List Line) (s : List Word)
    (hl : ∀ l ∈ lines, LineOK0 c.W l ∧ l ≠ []) :
    ∀ l ∈ sentStep c first lines s, LineOK0 c.W l ∧ l ≠ [] := by
  have hfill : ∀ col, ∀ l ∈ fill c.W c.s0 c.md col s, LineOK0 c.W l ∧ l ≠ [] :=
    fun col l h => ⟨(fill_bound ..).ok0 l h, (fill_linesOf ..).nonempty l h⟩
  obtain ⟨col, h | ⟨init, last, w0, rest, rfl, -, hw, hm, h⟩⟩ := sentStep_shape c first lines s
  · rw [h]
    exact List.forall_mem_append.2 ⟨hl, hfill col⟩
  · have h0 := hfill col
    rw [hw] at h0
    rw [h]
    simp only [List.forall_mem_append, List.forall_mem_cons] at hl h0 ⊢
    refine ⟨hl.1, ⟨.inl ?_, by simp [hl.2.1.2]⟩, h0.2⟩
    rw [lineLen_append hl.2.1.2 h0.1.2]
    exact hm

end FM
