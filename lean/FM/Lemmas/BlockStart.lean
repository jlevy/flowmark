import FM.Model.BlockStart
import FM.Lemmas.Wrap
/-
  The Markdown escape is sufficient wherever it applies: an escaped head word cannot start a block.
-/
namespace FM

theorem all_false_of_head {w : Word} {c ch : Char} (h : w.head? = some c) (hne : (c == ch) = false) :
    w.all (· == ch) = false := by
  cases w with
  | nil => simp at h
  | cons a t => simp at h; subst h; simp [hne]

/-- Every marker `interruptsPara` looks for, the ordered ones `1.` and `1)` apart, begins with one
of these characters. -/
def blockStartChars : List Char := ['#', '*', '-', '_', '=', '`', '~', '>', '+']

theorem not_interrupts_of_head {a : Char} {t : Word} {rest : Line} (ha : a ∉ blockStartChars)
    (ho : isOrderedHead (a :: t) rest = false) : interruptsPara ((a :: t) :: rest) = false := by
  simp only [blockStartChars, List.mem_cons, List.not_mem_nil, or_false, not_or] at ha
  cases rest <;>
    simp [interruptsPara, isAtxHead, allCh, isBulletHead, isQuoteHead, isRuleLine, isSetextLine,
      isFenceHead, List.takeWhile, Bool.beq_eq_decide_eq, ho, ha]

theorem backslash_head_safe (w : Word) (rest : Line) : interruptsPara (('\\' :: w) :: rest) = false :=
  not_interrupts_of_head (by decide) (by simp [isOrderedHead])

/-- A head word that starts with a digit and has at least three characters cannot start a block
(an ordered marker that interrupts a paragraph is exactly `1.` or `1)`). -/
theorem digit_head_safe (a : Char) (t : Word) (rest : Line) (hd : a.isDigit = true) (hlen : 2 ≤ t.length) :
    interruptsPara ((a :: t) :: rest) = false := by
  have hnd : ∀ c ∈ blockStartChars, c.isDigit = false := by decide
  refine not_interrupts_of_head (fun hm => by simp [hnd a hm] at hd) ?_
  match t, hlen with
  | _ :: _ :: _ :: _, _ => simp [isOrderedHead]
  | [_, _], _ => simp [isOrderedHead]

/-- The escape is sufficient wherever it applies. -/
theorem escaped_head_safe (w : Word) (rest : Line) (h : isSpecialWord w = true ∨ isNumeralWord w = true) :
    interruptsPara (escapeWord w :: rest) = false := by
  rcases escapeWord_cases w with ⟨ds, l, -, hne, hd, -, -, he⟩ | ⟨-, -, he⟩ | ⟨hn, hs, -⟩
  · cases ds with
    | nil => exact absurd rfl hne
    | cons a t => exact he ▸ digit_head_safe a (t ++ ['\\', l]) rest (by simp_all) (by simp)
  · exact he ▸ backslash_head_safe w rest
  · simp [hn, hs] at h

end FM
