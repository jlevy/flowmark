import FM.Model.Wrap
import FM.Lemmas.Str
/-
  The greedy fill through its equations.  From the first word on the current line is never empty;
  there the loop has three cases (`fillG_nil`, `fillG_fit`, `fillG_break`), and the facts about its
  output (partition, width bound, maximality, and that re-filling its words reproduces it) are
  inductions over them.
-/
namespace FM

theorem isNumeralWord_concat (ds : Word) (l : Char) :
    isNumeralWord (ds ++ [l]) = ((l == '.' || l == ')') && !ds.isEmpty && ds.all Char.isDigit) := by
  simp [isNumeralWord]

theorem escapeWord_concat (ds : Word) (l : Char) :
    escapeWord (ds ++ [l]) =
      if isNumeralWord (ds ++ [l]) then ds ++ ['\\', l]
      else if isSpecialWord (ds ++ [l]) then '\\' :: (ds ++ [l]) else ds ++ [l] := by
  simp [escapeWord, isNumeralWord]

/-- `markdown_escape_word` by the three kinds of word: a numeral `ds ++ [l]` gets the backslash
before its `.` or `)`, a special word in front, any other word is left alone. -/
theorem escapeWord_cases (w : Word) :
    (∃ ds l, w = ds ++ [l] ∧ ds ≠ [] ∧ ds.all Char.isDigit = true ∧ (l = '.' ∨ l = ')') ∧
      isNumeralWord w = true ∧ escapeWord w = ds ++ ['\\', l]) ∨
    (isNumeralWord w = false ∧ isSpecialWord w = true ∧ escapeWord w = '\\' :: w) ∨
    (isNumeralWord w = false ∧ isSpecialWord w = false ∧ escapeWord w = w) := by
  rcases List.eq_nil_or_concat w with rfl | ⟨ds, l, rfl⟩
  · exact .inr (.inr (by decide))
  · rw [List.concat_eq_append, escapeWord_concat]
    cases hn : isNumeralWord (ds ++ [l])
    · cases isSpecialWord (ds ++ [l]) <;> simp
    · simp only [isNumeralWord_concat, Bool.and_eq_true, Bool.or_eq_true, beq_iff_eq,
        Bool.not_eq_true', List.isEmpty_eq_false_iff] at hn
      exact .inl ⟨ds, l, rfl, hn.1.2, hn.2, hn.1.1, rfl, rfl⟩

theorem escapeWord_length (w : Word) : w.length ≤ (escapeWord w).length := by
  rcases escapeWord_cases w with ⟨ds, l, rfl, -, -, -, -, h⟩ | ⟨-, -, h⟩ | ⟨-, -, h⟩ <;> simp [h]

/-- A word with a backslash in it is neither a numeral nor special. -/
theorem escapeWord_of_backslash {w : Word} (hm : '\\' ∈ w) : escapeWord w = w := by
  rcases escapeWord_cases w with ⟨ds, l, rfl, -, hd, hl, -, -⟩ | ⟨-, hs, -⟩ | ⟨-, -, h⟩
  · rcases List.mem_append.1 hm with hm | hm
    · exact absurd (List.all_eq_true.1 hd _ hm) (by decide)
    · rcases hl with rfl | rfl <;> simp at hm
  · simp only [isSpecialWord, Bool.or_eq_true, Bool.and_eq_true, beq_iff_eq, List.all_eq_true] at hs
    rcases hs with (((rfl | rfl) | rfl) | rfl) | ⟨-, h⟩
    · simp at hm
    · simp at hm
    · simp at hm
    · simp at hm
    · exact absurd (h _ hm) (by decide)
  · exact h

/-- Every word the escape changes has a backslash in it afterwards, so it is not changed again. -/
theorem escapeWord_idem (w : Word) : escapeWord (escapeWord w) = escapeWord w := by
  rcases escapeWord_cases w with ⟨ds, l, -, -, -, -, -, h⟩ | ⟨-, -, h⟩ | ⟨-, -, h⟩
  · exact escapeWord_of_backslash (by simp [h])
  · exact escapeWord_of_backslash (by simp [h])
  · rw [h, h]

theorem escOf_length (md : Bool) (w : Word) : w.length ≤ (escOf md w).length := by
  cases md <;> simp [escOf, escapeWord_length]

theorem escOf_idem (md : Bool) (w : Word) : escOf md (escOf md w) = escOf md w := by
  cases md <;> simp [escOf, escapeWord_idem]

/-- A partition of a word list into non-empty lines in which the head of every line but
possibly the first has gone through `esc` (the `LinePartition` interface of DESIGN §2.3). -/
inductive LinesOf (esc : Word → Word) : Bool → List Word → List Line → Prop
  | nil (first : Bool) : LinesOf esc first [] []
  | cons (first : Bool) (h : Word) (t rest : List Word) (ls : List Line) :
      LinesOf esc false rest ls →
      LinesOf esc first (h :: t ++ rest) (((if first then h else esc h) :: t) :: ls)

theorem LinesOf.nonempty {esc first ws ls} (h : LinesOf esc first ws ls) : ∀ l ∈ ls, l ≠ [] := by
  induction h with
  | nil => simp
  | cons first h t rest ls _ ih => simpa using ih

theorem LinesOf.escaped_heads {esc first ws ls} (h : LinesOf esc first ws ls) :
    ∀ l ∈ (if first then ls.tail else ls), ∃ hd t, l = esc hd :: t := by
  induction h with
  | nil first => cases first <;> simp
  | cons first hd t rest ls _ ih =>
    cases first with
    | true => simpa using ih
    | false =>
      intro l hl
      rcases List.mem_cons.1 hl with rfl | hl
      · exact ⟨hd, t, rfl⟩
      · exact ih l hl

theorem LinesOf.flatten_fix {esc : Word → Word} {first ws ls} (h : LinesOf esc first ws ls)
    (hf : ∀ w ∈ ws, esc w = w) : ls.flatten = ws := by
  induction h with
  | nil => rfl
  | cons first hd t rest ls _ ih =>
    have h1 : esc hd = hd := hf hd (by simp)
    have h2 := ih (fun w hw => hf w (by simp [hw]))
    cases first <;> simp [h1, h2]

/-- Word-by-word relation between output and input: equal, or the escape of the input word. -/
inductive EscRel (esc : Word → Word) : List Word → List Word → Prop
  | nil : EscRel esc [] []
  | same (w) {a b} : EscRel esc a b → EscRel esc (w :: a) (w :: b)
  | esc (w) {a b} : EscRel esc a b → EscRel esc (esc w :: a) (w :: b)

theorem EscRel.refl (esc) : ∀ ws, EscRel esc ws ws
  | [] => .nil
  | w :: ws => .same w (EscRel.refl esc ws)

theorem EscRel.append {esc a b c d} (h1 : EscRel esc a b) (h2 : EscRel esc c d) :
    EscRel esc (a ++ c) (b ++ d) := by
  induction h1 with
  | nil => simpa
  | same w _ ih => exact .same w ih
  | esc w _ ih => exact .esc w ih

theorem LinesOf.flatten_rel {esc first ws ls} (h : LinesOf esc first ws ls) :
    EscRel esc ls.flatten ws := by
  induction h with
  | nil => exact .nil
  | cons first h t rest ls _ ih =>
    have ht := (EscRel.refl esc t).append ih
    cases first
    · exact .esc h ht
    · exact .same h ht

theorem emit_nil : emit ([] : Line) = [] := rfl
theorem emit_ne {cur : Line} (h : cur ≠ []) : emit cur = [cur] := by
  cases cur <;> simp_all [emit]
theorem sepW_ne {cur : Line} (h : cur ≠ []) : sepW cur = 1 := by
  cases cur <;> simp_all [sepW]

theorem fill_nil (W c0 c1 : Nat) (md : Bool) : fill W c1 md c0 [] = [] := rfl

/-- The first word goes on the first line whether it fits or not. -/
theorem fill_cons (W c0 c1 : Nat) (md : Bool) (w : Word) (ws : List Word) :
    fill W c1 md c0 (w :: ws) = fillG (escOf md) W c0 c1 [w] (c0 + w.length) true ws := by
  simp [fill, fillG, sepW, emit]

variable {esc : Word → Word} {W c0 c1 : Nat} {cur : Line} {curW : Nat} {first : Bool}
  {w : Word} {ws : List Word}

theorem fillG_nil (h : cur ≠ []) : fillG esc W c0 c1 cur curW first [] = [cur] := by
  simp [fillG, emit_ne h]

theorem fillG_fit (h : cur ≠ []) (hfit : curW + w.length + 1 ≤ W) :
    fillG esc W c0 c1 cur curW first (w :: ws) =
      fillG esc W c0 c1 (cur ++ [w]) (curW + w.length + 1) first ws := by
  simp [fillG, sepW_ne h, hfit]

theorem fillG_break (h : cur ≠ []) (hbrk : ¬ curW + w.length + 1 ≤ W) :
    fillG esc W c0 c1 cur curW first (w :: ws) =
      cur :: fillG esc W c0 c1 [esc w] (c1 + (esc w).length) false ws := by
  simp [fillG, sepW_ne h, emit_ne h, hbrk, List.isEmpty_eq_false_iff.2 h]

theorem fillG_partition (esc : Word → Word) (W c0 c1 curW : Nat) (first : Bool) (ws : List Word)
    (hne : cur ≠ []) :
    ∃ pre suf rest, ws = pre ++ suf ∧
      fillG esc W c0 c1 cur curW first ws = (cur ++ pre) :: rest ∧ LinesOf esc false suf rest := by
  induction ws generalizing cur curW first with
  | nil => exact ⟨[], [], [], rfl, by simp [fillG_nil hne], .nil _⟩
  | cons w ws ih =>
    by_cases hfit : curW + w.length + 1 ≤ W
    · obtain ⟨pre, suf, rest, rfl, hout, hl⟩ := ih (cur := cur ++ [w]) (curW + w.length + 1) first (by simp)
      exact ⟨w :: pre, suf, rest, rfl, by simp [fillG_fit hne hfit, hout], hl⟩
    · obtain ⟨pre, suf, rest, rfl, hout, hl⟩ := ih (cur := [esc w]) (c1 + (esc w).length) false (by simp)
      exact ⟨[], w :: pre ++ suf, _, rfl, by simp [fillG_break hne hfit],
        hout ▸ LinesOf.cons false w pre suf rest hl⟩

theorem fill_linesOf (W c0 c1 : Nat) (md : Bool) (ws : List Word) :
    LinesOf (escOf md) true ws (fill W c1 md c0 ws) := by
  cases ws with
  | nil => exact .nil true
  | cons w ws =>
    obtain ⟨pre, suf, rest, rfl, hout, hl⟩ :=
      fillG_partition (escOf md) W c0 c1 (c0 + w.length) true ws (List.cons_ne_nil w [])
    rw [fill_cons, hout]
    exact .cons true w pre suf rest hl

/-- A line starting at column `c` respects width `W`, or it is a single unbreakable word. -/
def LineOK (W c : Nat) (l : Line) : Prop := c + lineLen l ≤ W ∨ l.length = 1

/-- First line measured from column `c`, the others from `c1`. -/
def BoundFrom (W c c1 : Nat) (out : List Line) : Prop :=
  (∀ l ∈ out.head?, LineOK W c l) ∧ ∀ l ∈ out.tail, LineOK W c1 l

theorem BoundFrom.cons {c : Nat} {l : Line} {out : List Line} (hl : LineOK W c l)
    (h : BoundFrom W c1 c1 out) : BoundFrom W c c1 (l :: out) := by
  cases out <;> simp_all [BoundFrom]

/-- `curW` is the current line's true end column; a line is closed only when it is within the
width or has a single word, and every later line starts at `c1` with one word. -/
theorem fillG_bound {c : Nat} (hne : cur ≠ []) (hW : curW = c + lineLen cur) (hok : LineOK W c cur) :
    BoundFrom W c c1 (fillG esc W c0 c1 cur curW first ws) := by
  induction ws generalizing cur curW c first with
  | nil => simpa [fillG_nil hne, BoundFrom] using hok
  | cons w ws ih =>
    have := lineLen_snoc w hne
    by_cases hfit : curW + w.length + 1 ≤ W
    · rw [fillG_fit hne hfit]
      exact ih (by simp) (by omega) (.inl (by omega))
    · rw [fillG_break hne hfit]
      exact .cons hok (ih (by simp) rfl (.inr rfl))

theorem fill_bound (W c0 c1 : Nat) (md : Bool) (ws : List Word) :
    BoundFrom W c0 c1 (fill W c1 md c0 ws) := by
  cases ws with
  | nil => simp [fill_nil, BoundFrom]
  | cons w ws =>
    rw [fill_cons]
    exact fillG_bound (List.cons_ne_nil w []) rfl (.inr rfl)

theorem LineOK.indented {p : Str} {l : Line} (h : LineOK W p.length l) :
    (p ++ joinSp l).length ≤ W ∨ l.length = 1 :=
  h.imp (fun h => by simpa [joinSp_length] using h) id

/-- The text lines `wrap_paragraph` makes of filled lines within bounds: each is its indent and
the words, and is within the width as a string or is its indent and a single word. -/
theorem indented_of_bound (W : Nat) (i0 s0 : Str) (filled : List Line)
    (hb : BoundFrom W i0.length s0.length filled) :
    (addIndents i0 s0 false (filled.map joinSp)).length = filled.length ∧
    (∀ L ∈ (addIndents i0 s0 false (filled.map joinSp)).head?,
      ∃ l ∈ filled.head?, L = i0 ++ joinSp l ∧ (L.length ≤ W ∨ l.length = 1)) ∧
    (∀ L ∈ (addIndents i0 s0 false (filled.map joinSp)).tail,
      ∃ l ∈ filled.tail, L = s0 ++ joinSp l ∧ (L.length ≤ W ∨ l.length = 1)) := by
  cases filled with
  | nil => simp [addIndents]
  | cons l rest =>
    refine ⟨by simp [addIndents], ?_, ?_⟩
    · intro L hL
      obtain rfl : i0 ++ joinSp l = L := by simpa [addIndents] using hL
      exact ⟨l, rfl, rfl, (hb.1 l rfl).indented⟩
    · intro L hL
      obtain ⟨l', hl', rfl⟩ : ∃ l' ∈ rest, s0 ++ joinSp l' = L := by simpa [addIndents] using hL
      exact ⟨l', hl', rfl, (hb.2 l' hl').indented⟩

/-- Consecutive lines: the head of the next line would not have fit on the previous one,
whose accounting column is `a` for the first line and `c1` afterwards. -/
def MaxChain (W c1 : Nat) : Nat → List Line → Prop
  | _, [] => True
  | _, [_] => True
  | a, l :: l' :: rest =>
    (∀ h ∈ l'.head?, W < a + lineLen l + 1 + h.length) ∧ MaxChain W c1 c1 (l' :: rest)

/-- The word that starts a new line did not fit on the previous one, and its escape is no shorter.
(`fillG_partition` is called only to see that the next line begins with `esc w`.) -/
theorem fillG_maximal (hesc : ∀ w, w.length ≤ (esc w).length) {a : Nat} (hne : cur ≠ [])
    (hW : curW = a + lineLen cur) : MaxChain W c1 a (fillG esc W c0 c1 cur curW first ws) := by
  induction ws generalizing cur curW a first with
  | nil => simp [fillG_nil hne, MaxChain]
  | cons w ws ih =>
    by_cases hfit : curW + w.length + 1 ≤ W
    · rw [fillG_fit hne hfit]
      exact ih (by simp) (by rw [lineLen_snoc w hne]; omega)
    · obtain ⟨pre, -, rest, -, hout, -⟩ :=
        fillG_partition esc W c0 c1 (c1 + (esc w).length) false ws (List.cons_ne_nil (esc w) [])
      have h := ih (cur := [esc w]) (curW := c1 + (esc w).length) (first := false) (by simp) rfl
      rw [fillG_break hne hfit]
      rw [hout] at h ⊢
      have := hesc w
      exact ⟨by simp; omega, h⟩

/-- The output's words after `cur` are a word list `tl` on which the loop, from the same state,
gives the same output.  At a break the head `esc w` of the new line is, as an input word, no shorter
than `w`, so it breaks again, and escaping it again changes nothing. -/
theorem fillG_refill {esc : Word → Word} (hlen : ∀ w, w.length ≤ (esc w).length)
    (hidem : ∀ w, esc (esc w) = esc w) (W c0 c1 curW : Nat) (first : Bool) (ws : List Word)
    {cur : Line} (hne : cur ≠ []) :
    ∃ tl, (fillG esc W c0 c1 cur curW first ws).flatten = cur ++ tl ∧
      ∀ first', fillG esc W c0 c1 cur curW first' tl = fillG esc W c0 c1 cur curW first ws := by
  induction ws generalizing cur curW first with
  | nil => exact ⟨[], by simp [fillG_nil hne], fun _ => by simp [fillG_nil hne]⟩
  | cons w ws ih =>
    by_cases hfit : curW + w.length + 1 ≤ W
    · obtain ⟨tl, h1, h2⟩ := ih (cur := cur ++ [w]) (curW + w.length + 1) first (by simp)
      rw [fillG_fit hne hfit]
      exact ⟨w :: tl, by simpa using h1, fun f => by rw [fillG_fit hne hfit, h2]⟩
    · obtain ⟨tl, h1, h2⟩ := ih (cur := [esc w]) (c1 + (esc w).length) false (by simp)
      rw [fillG_break hne hfit]
      have := hlen w
      exact ⟨esc w :: tl, by simp [h1], fun f => by rw [fillG_break hne (by omega), hidem, h2]⟩

end FM
