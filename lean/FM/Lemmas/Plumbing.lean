import FM.Model.Plumbing
/-
  Soundness of the syntactic composition `through` w.r.t. the value semantics of layers.
-/
namespace FM.Plumbing

theorem vnot_vnot (v : Val) : vnot (vnot v) = v := by
  cases v <;> simp [vnot]

theorem subst_sound (l : Layer) (env : String → Val) (e' e : PExpr) (h : subst l e' = some e) :
    eval (applyLayer l env) e' = eval env e := by
  cases e' <;> rw [subst] at h
  case var n => simp [eval, applyLayer, h]
  case const s => cases h; rfl
  all_goals split at h <;> cases h <;> simp [eval, applyLayer, *, vnot_vnot]

/-- Push an environment down through a chain of layers (top first). -/
def applyAll : List Layer → (String → Val) → String → Val
  | [], env => env
  | l :: rest, env => applyAll rest (applyLayer l env)

/-- If the syntactic composition says that expression `e` of the top-level names reaches `k`,
then for every valuation the value at `k` at the bottom is the value of `e` at the top. -/
theorem through_sound : ∀ (ls : List Layer) (env : String → Val) (k : String) (e : PExpr),
    through ls k = some e → applyAll ls env k = eval env e
  | [], env, k, e, h => by cases h; rfl
  | l :: rest, env, k, e, h => by
    rw [through] at h
    split at h
    next e' hr => rw [applyAll, through_sound rest _ k e' hr, subst_sound l env e' e h]
    next => cases h

end FM.Plumbing
