import FM.Model.Quotes
/-
  Helper lemmas for the smart-quote model: every stage relates input and output pointwise.
-/
namespace FM

/-- The only changes smart quotes may make to one character. -/
def QRel (a b : Char) : Prop :=
  a = b ∨ (a = '\'' ∧ (b = '‘' ∨ b = '’')) ∨ (a = '"' ∧ (b = '“' ∨ b = '”'))

/-- Pointwise relation on strings (same length by construction). -/
inductive QRelS : Str → Str → Prop
  | nil : QRelS [] []
  | cons {a b : Char} {s t : Str} : QRel a b → QRelS s t → QRelS (a :: s) (b :: t)

theorem QRel.refl (a : Char) : QRel a a := Or.inl rfl

theorem QRelS.refl : ∀ s, QRelS s s
  | [] => .nil
  | a :: s => .cons (QRel.refl a) (QRelS.refl s)

theorem QRelS.append {a b c d : Str} (h1 : QRelS a b) (h2 : QRelS c d) : QRelS (a ++ c) (b ++ d) := by
  induction h1 with
  | nil => simpa
  | cons h _ ih => exact .cons h ih

theorem QRelS.length {a b : Str} (h : QRelS a b) : a.length = b.length := by
  induction h with
  | nil => rfl
  | cons _ _ ih => simp [ih]

theorem QRel.trans {a b c : Char} (h1 : QRel a b) (h2 : QRel b c) : QRel a c := by
  rcases h1 with rfl | ⟨rfl, rfl | rfl⟩ | ⟨rfl, rfl | rfl⟩
  · exact h2
  -- otherwise `b` is a curly quote, and a curly quote is related only to itself
  all_goals
    obtain rfl : _ = c := by simpa [QRel] using h2
    simp [QRel]

theorem QRelS.trans {a b c : Str} (h1 : QRelS a b) (h2 : QRelS b c) : QRelS a c := by
  induction h1 generalizing c with
  | nil => exact h2
  | cons h _ ih =>
    cases h2 with
    | cons h' ht => exact .cons (h.trans h') (ih ht)

theorem QRelS.getElem? {a b : Str} (h : QRelS a b) {i : Nat} {c : Char} (hc : a[i]? = some c) :
    ∃ d, b[i]? = some d ∧ QRel c d := by
  induction h generalizing i with
  | nil => simp at hc
  | cons hab _ ih =>
    cases i with
    | zero =>
      obtain rfl : _ = c := by simpa using hc
      exact ⟨_, rfl, hab⟩
    | succ i => exact ih (i := i) hc

theorem QRelS.flatten_map {α} {f g : α → Str} (h : ∀ x, QRelS (f x) (g x)) :
    ∀ l : List α, QRelS (l.map f).flatten (l.map g).flatten
  | [] => .nil
  | x :: l => by simpa using (h x).append (flatten_map h l)

theorem scanContent_spec {q c1 c2 : Char} {s content rest : Str}
    (h : scanContent q c1 c2 s = some (content, rest)) : s = content ++ q :: rest := by
  fun_induction scanContent q c1 c2 s generalizing content <;> grind

theorem take_drop_len (rest : Str) (k : Nat) : rest = rest.take k ++ rest.drop k :=
  (List.take_append_drop k rest).symm

theorem quoteSpan_eq_some {q o cl : Char} {cs out rest : Str} :
    quoteSpan q o cl cs = some (out, rest) ↔
      ∃ content, scanContent q o cl cs = some (content, rest) ∧ suffixOk rest = true ∧
        out = if hasParaBreak content then q :: content ++ [q] else o :: content ++ [cl] := by
  unfold quoteSpan
  grind

theorem quoteSpan_spec {q o cl : Char} (ho : QRel q o) (hcl : QRel q cl) {cs out rest : Str}
    (h : quoteSpan q o cl cs = some (out, rest)) :
    ∃ span, q :: cs = span ++ rest ∧ QRelS span out := by
  obtain ⟨content, hs, _, rfl⟩ := quoteSpan_eq_some.1 h
  refine ⟨q :: content ++ [q], by simp [scanContent_spec hs], ?_⟩
  split
  · exact .refl _
  · exact .cons ho ((QRelS.refl content).append (.cons hcl .nil))

theorem tryQuoteAt_spec {s out rest : Str} (h : tryQuoteAt s = some (out, rest)) :
    ∃ span, s = span ++ rest ∧ QRelS span out := by
  cases s with
  | nil => simp [tryQuoteAt] at h
  | cons c cs =>
    simp only [tryQuoteAt, beq_iff_eq] at h
    split at h
    · subst c; exact quoteSpan_spec (by simp [QRel]) (by simp [QRel]) h
    · split at h
      · subst c; exact quoteSpan_spec (by simp [QRel]) (by simp [QRel]) h
      · simp at h

theorem quoteStep_spec (ls : Bool) (c : Char) (cs : Str) :
    ∃ span, c :: cs = span ++ (quoteStep ls c cs).2 ∧ QRelS span (quoteStep ls c cs).1 := by
  unfold quoteStep
  split
  · next h => exact tryQuoteAt_spec (Option.ite_none_right_eq_some.1 h).2
  · split
    · next h =>
      obtain ⟨span, rfl, hr⟩ := tryQuoteAt_spec (Option.ite_none_right_eq_some.1 h).2
      exact ⟨c :: span, rfl, .cons (.refl c) hr⟩
    · exact ⟨[c], rfl, .refl _⟩

theorem quotePass_rel (n : Nat) (ls : Bool) (s : Str) : QRelS s (quotePass n ls s) := by
  fun_induction quotePass n ls s with
  | case1 => exact .refl _
  | case2 => exact .nil
  | case3 n ls c cs r ih =>
    obtain ⟨span, hs, hr⟩ := quoteStep_spec ls c cs
    rw [hs]
    exact hr.append ih

theorem curlApos_rel : ∀ (w : Str), QRelS w (curlApos w)
  | [] => .nil
  | c :: w => .cons (by by_cases h : c = '\'' <;> simp [QRel, h]) (curlApos_rel w)

theorem fixWord_rel (isWord : Char → Bool) (w : Str) : QRelS w (fixWord isWord w) := by
  unfold fixWord; split
  · exact curlApos_rel w
  · exact QRelS.refl w

theorem aposPass_rel (isWord : Char → Bool) (s cur : Str) :
    QRelS (cur.reverse ++ s) (aposPass isWord s cur) := by
  fun_induction aposPass isWord s cur with
  | case1 cur => simpa using fixWord_rel isWord cur.reverse
  | case2 c cs cur _ ih => exact (fixWord_rel isWord cur.reverse).append (.cons (.refl c) (by simpa using ih))
  | case3 c cs cur _ ih => simpa using ih

theorem applySmartQuotes_rel (isWord : Char → Bool) (s : Str) :
    QRelS s (applySmartQuotes isWord s) :=
  (quotePass_rel s.length true s).trans (by simpa [applySmartQuotes] using aposPass_rel isWord _ [])

theorem tagSegments_concat (n : Nat) (s cur : Str) :
    ((tagSegments n s cur).map Prod.snd).flatten = cur.reverse ++ s := by
  fun_induction tagSegments n s cur <;> simp_all [List.take_append_drop]
  -- left over: the pending text in front of a tag
  split <;> simp_all

/-- Tag spans are copied, the stretches between them go through both stages. -/
theorem smartQuotes_rel (isWord : Char → Bool) (s : Str) : QRelS s (smartQuotes isWord s) := by
  have h : ∀ p : Bool × Str, QRelS p.2 (if p.1 then p.2 else applySmartQuotes isWord p.2) := by
    intro p; split
    · exact .refl _
    · exact applySmartQuotes_rel isWord _
  simpa [smartQuotes, tagSegments_concat] using QRelS.flatten_map h (tagSegments s.length s [])

theorem smartQuotes_length (isWord : Char → Bool) (s : Str) : (smartQuotes isWord s).length = s.length :=
  (smartQuotes_rel isWord s).length.symm

end FM
