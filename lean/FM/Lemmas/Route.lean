import FM.Model.Route
/-
  The routing model through its equations: what the in-place loop emits, and `reformatFiles` mode by mode.
-/
namespace FM.Route

theorem mem_inplaceLoop {nb : Bool} {files : List Arg} {seen : List Nat} {a : Action} :
    a ∈ inplaceLoop nb files seen ↔ ∃ id, a = .toFile (.file id) id (!nb) ∧ Arg.file id ∈ files ∧ id ∉ seen := by
  fun_induction inplaceLoop nb files seen with
  | case1 => simp
  | case2 _ _ ih => simp [ih]
  | case3 i _ _ hi ih =>
    rw [List.contains_iff_mem] at hi
    simp only [ih, List.mem_cons, Arg.file.injEq]
    exact exists_congr fun id => and_congr_right fun _ => and_congr_left fun hs =>
      (or_iff_right (by rintro rfl; exact hs hi)).symm
  | case4 i _ _ hi ih =>
    rw [List.contains_iff_mem] at hi
    simp only [List.mem_cons, ih, Arg.file.injEq, not_or]
    constructor
    · rintro (rfl | ⟨id, rfl, h1, -, h2⟩)
      · exact ⟨i, rfl, .inl rfl, hi⟩
      · exact ⟨id, rfl, .inr h1, h2⟩
    · rintro ⟨id, rfl, h1, h2⟩
      by_cases h : id = i
      · exact .inl (by rw [h])
      · exact .inr ⟨id, rfl, h1.resolve_left h, h, h2⟩

theorem inplaceLoop_nodup (nb : Bool) (files : List Arg) (seen : List Nat) :
    ((inplaceLoop nb files seen).filterMap Action.target?).Nodup := by
  fun_induction inplaceLoop nb files seen with
  | case1 => simp
  | case2 _ _ ih => exact ih
  | case3 _ _ _ _ ih => exact ih
  | case4 i rest seen _ ih =>
    refine List.nodup_cons.2 ⟨fun hm => ?_, ih⟩
    obtain ⟨a, ha, hta⟩ := List.mem_filterMap.1 hm
    obtain ⟨id, rfl, -, h3⟩ := mem_inplaceLoop.1 ha
    cases hta
    exact h3 List.mem_cons_self

theorem reformatFiles_inplace (files : List Arg) (output : Out) (nb : Bool) :
    reformatFiles files output true nb =
      if Arg.stdin ∈ files then .error .inplaceStdin else .ok (inplaceLoop nb files []) := by
  by_cases h : files = [.stdin]
  · subst h; rfl
  · simp [reformatFiles, h]

theorem reformatFiles_inplace_ok {files : List Arg} {output : Out} {nb : Bool} {acts : List Action}
    (h : reformatFiles files output true nb = .ok acts) : Arg.stdin ∉ files ∧ acts = inplaceLoop nb files [] := by
  rw [reformatFiles_inplace] at h
  split at h <;> simp_all

theorem reformatFiles_path (files : List Arg) (o : Nat) (nb : Bool) :
    reformatFiles files (.path o) false nb =
      if files = [.stdin] then .ok [.toFile .stdin o false] else .error .outputMulti := by
  by_cases h : files = [.stdin]
  · subst h; rfl
  · simp [reformatFiles, h]

theorem reformatFiles_stdout (files : List Arg) {output : Out} (nb : Bool) (h : ∀ o, output ≠ .path o) :
    reformatFiles files output false nb = .ok (files.map .toStdout) := by
  cases output with
  | path o => exact absurd rfl (h o)
  | _ =>
    by_cases hf : files = [.stdin]
    · subst hf; rfl
    · simp [reformatFiles, hf]

end FM.Route
