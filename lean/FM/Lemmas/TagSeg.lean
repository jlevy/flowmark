import FM.Model.TagSeg
import FM.Model.Scan
import FM.Lemmas.Str
/-
  Lemmas about the wrapper layers of `Model/TagSeg.lean`: on a text without hard breaks and without a tag at
  a line edge they hand the text to the base wrapper untouched; a tag-only line is an unindented tag line
  that ends with a tag.  And the unit splitter of `Model/Scan.lean` yields no empty word.
-/
namespace FM

theorem splitHardBreaks_no_nl (s cur : Str) (h : '\n' ∉ s) : splitHardBreaks s cur = [cur.reverse ++ s] := by
  fun_induction splitHardBreaks s cur <;> simp_all

theorem hardBreakWrapper_single (base : LineWrapper) (text i0 s0 : Str)
    (h : (splitHardBreaks text []).length = 1) : hardBreakWrapper base text i0 s0 = base text i0 s0 := by
  unfold hardBreakWrapper
  match hs : splitHardBreaks text [] with
  | [] => simp [hs] at h
  | [_] => rfl
  | _ :: _ :: _ => simp [hs] at h

theorem tagWrapper_no_nl (base : LineWrapper) (text i0 s0 : Str) (h : '\n' ∉ text) :
    tagWrapper base text i0 s0 = fixMultilineOpening (base text i0 s0) := by
  simp [tagWrapper, h]

/-- with no tag at a line edge nothing forces a segment boundary: all lines form one segment -/
theorem segmentLines_tagfree : ∀ (lines : List Str) (prev : Option Str) (cur : List Str),
    (∀ l ∈ lines, lineEndsWithTag l = false ∧ isUnindentedTagLine l = false) →
    (∀ p, prev = some p → lineEndsWithTag p = false) → lines ≠ [] →
    segmentLines false lines prev cur = [cur.reverse ++ lines]
  | line :: rest, prev, cur, h, hp, _ => by
    have hl := h line (by simp)
    have step : segmentLines false (line :: rest) prev cur = segmentLines false rest (some line) (line :: cur) := by
      cases prev with
      | none => simp [segmentLines, hl.2]
      | some p => simp [segmentLines, hl.2, hp p rfl]
    rw [step]
    cases rest with
    | nil => simp [segmentLines]
    | cons l2 rest =>
      rw [segmentLines_tagfree (l2 :: rest) (some line) (line :: cur) (fun l hl' => h l (by simp [hl']))
        (fun p hp' => by cases hp'; exact hl.1) (by simp)]
      simp

theorem tagWrapper_tagfree (base : LineWrapper) (text i0 s0 : Str)
    (h : ∀ l ∈ pySplitNl text, lineEndsWithTag l = false ∧ lineStartsWithTag l = false) :
    tagWrapper base text i0 s0 = fixMultilineOpening (base text i0 s0) := by
  have hany : ((pySplitNl text).any fun l => lineEndsWithTag l || lineStartsWithTag l) = false := by
    rw [List.any_eq_false]
    intro l hl
    simp [h l hl]
  have hseg := segmentLines_tagfree (pySplitNl text) none []
    (fun l hl => ⟨(h l hl).1, by simp [isUnindentedTagLine, (h l hl).2]⟩) (by simp) (pySplitNl_ne_nil text)
  simp [tagWrapper, hany, hseg]

theorem lstrip_of_not_space {l : Str} (h : firstIsSpace l = false) : lstrip l = l := by
  cases l with
  | nil => rfl
  | cons c t => simp [firstIsSpace] at h; simp [lstrip, List.dropWhile, h]

theorem startsWithAny_of_prefix {ps : List Str} {a b : Str} (hab : a <+: b)
    (h : startsWithAny ps a = true) : startsWithAny ps b = true := by
  simp only [startsWithAny, List.any_eq_true, List.isPrefixOf_iff_prefix] at h ⊢
  exact h.imp fun p hp => ⟨hp.1, hp.2.trans hab⟩

theorem tagOnly_unindented {l : Str} (h : isTagOnlyLine l = true) :
    isUnindentedTagLine l = true ∧ lineEndsWithTag l = true := by
  unfold isTagOnlyLine at h
  split at h
  · simp at h
  · next hs =>
    have hl : lstrip l = l := lstrip_of_not_space (by simpa using hs)
    simp only [strip, hl, Bool.and_eq_true, Bool.not_eq_true'] at h
    obtain ⟨⟨hne, hst⟩, hen⟩ := h
    have hlne : l ≠ [] := by rintro rfl; simp [rstrip] at hne
    simp [isUnindentedTagLine, lineStartsWithTag, lineEndsWithTag, hl, hs, hne, hen, hlne,
      startsWithAny_of_prefix (rstrip_prefix l) hst]

theorem unitSplitAux_nonempty (xs : List (Char × Bool)) (cur : Word) :
    ∀ w ∈ unitSplitAux xs cur, w ≠ [] := by
  fun_induction unitSplitAux xs cur <;> simp_all [or_imp]

end FM
