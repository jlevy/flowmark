import FM.Base.Str
/-
  Model of `flowmark/linewrapping/text_wrapping.py`:
    markdown_escape_word, wrap_paragraph_lines (greedy fill), wrap_paragraph,
    denormalize_adjacent_tags / normalize_adjacent_tags (tag_handling.py).

  The loop of `wrap_paragraph_lines` carries `current_line`, `current_width`, `first_line`;
  `fill` is the same loop as a structural recursion over the word list.
-/
namespace FM

/-- `_md_specials_pat = ^([-*+>]|#+)$` -/
def isSpecialWord (w : Word) : Bool :=
  w == ['-'] || w == ['*'] || w == ['+'] || w == ['>'] || (!w.isEmpty && w.all (· == '#'))

/-- `_md_numeral_pat = ^[0-9]+[.)]$` -/
def isNumeralWord (w : Word) : Bool :=
  match w.getLast? with
  | some l => (l == '.' || l == ')') && !w.dropLast.isEmpty && w.dropLast.all Char.isDigit
  | none => false

/-- `markdown_escape_word` -/
def escapeWord (w : Word) : Word :=
  match w.getLast? with
  | some l =>
    if (l == '.' || l == ')') && !w.dropLast.isEmpty && w.dropLast.all Char.isDigit then
      w.dropLast ++ ['\\', l]
    else if isSpecialWord w then '\\' :: w else w
  | none => w

def sepW (cur : Line) : Nat := if cur.isEmpty then 0 else 1
def emit (cur : Line) : List Line := if cur.isEmpty then [] else [cur]

/-- The word loop of `wrap_paragraph_lines` for `width > 0`, generic in the escape function.
`cur`/`curW`/`first` are `current_line`/`current_width`/`first_line`. -/
def fillG (esc : Word → Word) (W c0 c1 : Nat) :
    (cur : Line) → (curW : Nat) → (first : Bool) → List Word → List Line
  | cur, _, _, [] => emit cur
  | cur, curW, first, w :: ws =>
    if curW + w.length + sepW cur ≤ W then
      fillG esc W c0 c1 (cur ++ [w]) (curW + w.length + sepW cur) first ws
    else
      let first' := first && cur.isEmpty
      let w' := if first' then w else esc w
      -- `line_offset = initial_column if first_line else subsequent_offset`
      emit cur ++ fillG esc W c0 c1 [w'] ((if first' then c0 else c1) + w'.length) first' ws

/-- `is_markdown` selects the escape function. -/
def escOf (md : Bool) : Word → Word := if md then escapeWord else id

def fill (W c1 : Nat) (md : Bool) (c0 : Nat) (ws : List Word) : List Line :=
  fillG (escOf md) W c0 c1 [] c0 true ws

/-- `wrap_paragraph_lines(text, width, initial_column=c0, subsequent_offset=c1,
replace_whitespace=True, drop_whitespace=True, splitter=split, is_markdown=md)`.
The word splitter is a parameter (the Markdown-aware one is `mdSplit` in `Scan.lean`). -/
def wrapLines (split : Str → List Word) (text : Str) (W : Int) (c0 c1 : Nat) (md : Bool) :
    List Str :=
  if W ≤ 0 then
    let t := strip (collapseWs text)
    if t.isEmpty then [] else [t]
  else (fill W.toNat c1 md c0 (split (collapseWs text))).map joinSp

/-- The four tag families `(open, close)` of `tag_handling.py`. -/
def tagFamilies : List (Str × Str) :=
  [ ("{%".toList, "%}".toList), ("{#".toList, "#}".toList),
    ("{{".toList, "}}".toList), ("<!--".toList, "-->".toList) ]

/-- First family whose `close ++ mid ++ open` is a prefix of `s`. -/
def adjMatch (mid : Str) (s : Str) : Option (Str × Str) :=
  tagFamilies.find? (fun (o, c) => (c ++ mid ++ o).isPrefixOf s)

/-- `denormalize_adjacent_tags`: delete the single space in `close␣open` of one family
(leftmost, non-overlapping — `re.sub` semantics). `fuel` is the text length. -/
def denormAux : Nat → Str → Str
  | 0, s => s
  | _, [] => []
  | fuel + 1, c :: cs =>
    match adjMatch [' '] (c :: cs) with
    | some (o, cl) => cl ++ o ++ denormAux fuel ((c :: cs).drop (cl.length + 1 + o.length))
    | none => c :: denormAux fuel cs

def denormalizeAdjacentTags (s : Str) : Str := denormAux s.length s

/-- `normalize_adjacent_tags`: insert a space in `close open`. -/
def normAux : Nat → Str → Str
  | 0, s => s
  | _, [] => []
  | fuel + 1, c :: cs =>
    match adjMatch [] (c :: cs) with
    | some (o, cl) => cl ++ ' ' :: o ++ normAux fuel ((c :: cs).drop (cl.length + o.length))
    | none => c :: normAux fuel cs

def normalizeAdjacentTags (s : Str) : Str := normAux s.length s

/-- Indent insertion of `wrap_paragraph` (and of `line_wrap_by_sentence`). `skipFirst` is
`initial_column != 0` (then the first line gets no indent). -/
def addIndents (i0 s0 : Str) (skipFirst : Bool) : List Str → List Str
  | [] => []
  | l :: ls => (if skipFirst then l else i0 ++ l) :: ls.map (s0 ++ ·)

/-- `wrap_paragraph(text, width, initial_indent, subsequent_indent, initial_column, is_markdown)` -/
def wrapParagraph (split : Str → List Word) (text : Str) (W : Int) (i0 s0 : Str)
    (initCol : Nat) (md : Bool) : Str :=
  let ls := wrapLines split text W (initCol + i0.length) s0.length md
  denormalizeAdjacentTags (joinWith ['\n'] (addIndents i0 s0 (initCol != 0) ls))

end FM
