import FM.Model.Ast
/-
  Model of `transforms/doc_transforms.py` and `transforms/doc_cleanups.py`:
    coalesce_raw_text_nodes, rewrite_text_content, rewrite_text_across_inlines, unbold_headings.
  The traversal (`transform_tree`) descends into Document, Quote/Alert, List, ListItem, Paragraph,
  Heading, SetextHeading, Emphasis, StrongEmphasis, Link, FootnoteDef, Table/TableRow/TableCell,
  Strikethrough — not into Image.
-/
namespace FM

/-! ### coalesce: RawText, soft LineBreak, RawText, … → one RawText joined by "\n" -/

/-- the look-ahead loop: absorb `(soft break, raw text)` pairs -/
def absorbSoft : Str → List Inline → Str × List Inline
  | acc, .br true :: .raw s :: rest => absorbSoft (acc ++ '\n' :: s) rest
  | acc, rest => (acc, rest)

def coalesceList : Nat → List Inline → List Inline
  | 0, xs => xs
  | _, [] => []
  | n + 1, .raw s :: rest =>
    let r := absorbSoft s rest
    .raw r.1 :: coalesceList n r.2
  | n + 1, x :: rest => x :: coalesceList n rest

mutual
  /-- `coalesce_raw_text_nodes` below an inline node that `transform_tree` descends into -/
  def coalesceInline : Inline → Inline
    | .em cs => .em (coalesceInlines cs)
    | .strong cs => .strong (coalesceInlines cs)
    | .strike cs => .strike (coalesceInlines cs)
    | .link cs d t => .link (coalesceInlines cs) d t
    | i => i
  /-- Python coalesces a node's children and then visits the (new) children; merging siblings and
  processing inside a child are independent, so children are processed first here (structural). -/
  def coalesceInlines (cs : List Inline) : List Inline :=
    coalesceList cs.length (coalesceChildren cs)
  def coalesceChildren : List Inline → List Inline
    | [] => []
    | c :: rest => coalesceInline c :: coalesceChildren rest
end

/-! ### rewrite_text_content (ellipses): apply `f` to every RawText the traversal reaches -/

mutual
  def mapRawInline (f : Str → Str) : Inline → Inline
    | .raw s => .raw (f s)
    | .em cs => .em (mapRawInlines f cs)
    | .strong cs => .strong (mapRawInlines f cs)
    | .strike cs => .strike (mapRawInlines f cs)
    | .link cs d t => .link (mapRawInlines f cs) d t
    | i => i            -- code spans, images, autolinks, HTML, literals, breaks: untouched
  def mapRawInlines (f : Str → Str) : List Inline → List Inline
    | [] => []
    | c :: rest => mapRawInline f c :: mapRawInlines f rest
end

/-! ### rewrite_text_across_inlines (smart quotes): composite text per inline scope -/

mutual
  /-- `_collect_inline_segments`: (text, mutable?) in document order -/
  def collectSegs : Inline → List (Str × Bool)
    | .raw s => [(s, true)]
    | .code s => [(s, false)]
    | .br soft => [(['\n'], false)] ++ (if soft then [] else [])
    | .lit c => [(c, false)]
    | .html s => [(s, false)]
    | .em cs => collectSegsL cs
    | .strong cs => collectSegsL cs
    | .strike cs => collectSegsL cs
    | .link cs _ _ => collectSegsL cs
    | .image cs _ _ => collectSegsL cs
    | .autolink d => [(d, false)]
    | .url d => [(d, false)]
    | .fnref _ => []
  def collectSegsL : List Inline → List (Str × Bool)
    | [] => []
    | c :: rest => collectSegs c ++ collectSegsL rest
end

mutual
  /-- write the converted composite back: every node consumes its own length; only RawText takes
  the new characters. Returns the rebuilt node and the rest of the converted text. -/
  def writeBack : Inline → Str → Inline × Str
    | .raw s, conv => (.raw (conv.take s.length), conv.drop s.length)
    | .code s, conv => (.code s, conv.drop s.length)
    | .br soft, conv => (.br soft, conv.drop 1)
    | .lit c, conv => (.lit c, conv.drop c.length)
    | .html s, conv => (.html s, conv.drop s.length)
    | .em cs, conv => let r := writeBackL cs conv; (.em r.1, r.2)
    | .strong cs, conv => let r := writeBackL cs conv; (.strong r.1, r.2)
    | .strike cs, conv => let r := writeBackL cs conv; (.strike r.1, r.2)
    | .link cs d t, conv => let r := writeBackL cs conv; (.link r.1 d t, r.2)
    | .image cs d t, conv => let r := writeBackL cs conv; (.image r.1 d t, r.2)
    | .autolink d, conv => (.autolink d, conv.drop d.length)
    | .url d, conv => (.url d, conv.drop d.length)
    | .fnref l, conv => (.fnref l, conv)
  def writeBackL : List Inline → Str → List Inline × Str
    | [], conv => ([], conv)
    | c :: rest, conv =>
      let r := writeBack c conv
      let r2 := writeBackL rest r.2
      (r.1 :: r2.1, r2.2)
end

/-- one inline scope (Paragraph / Heading / TableCell children): `Except` = the length assertion -/
def rewriteScope (f : Str → Str) (cs : List Inline) : Except String (List Inline) :=
  let composite := ((collectSegsL cs).map Prod.fst).flatten
  if composite.isEmpty then .ok cs
  else
    let conv := f composite
    if conv.length != composite.length then .error "Rewrite function must be length-preserving"
    else .ok (writeBackL cs conv).1

/-! ### unbold_headings -/

def unboldInl (cs : List Inline) : List Inline :=
  match cs with
  | [.strong inner] => inner
  | [.em [.strong inner]] => [.em inner]
  | _ => cs

mutual
  def unboldBlock : Block → Block
    | .heading l cs sx => .heading l (unboldInl cs) sx     -- ATX and setext headings alike
    | .list o s b t items => .list o s b t (unboldBlocks items)
    | .item bs => .item (unboldBlocks bs)
    | .quote bs => .quote (unboldBlocks bs)
    | .alert ty bs => .alert ty (unboldBlocks bs)
    | .fndef l bs => .fndef l (unboldBlocks bs)
    | b => b       -- all leaf blocks
  def unboldBlocks : List Block → List Block
    | [] => []
    | b :: rest => unboldBlock b :: unboldBlocks rest
end

/-! ### block-level application (the `transform_tree` traversal over blocks) -/

def mapCells (g : List Inline → List Inline) : List (List Inline) → List (List Inline)
  | [] => []
  | c :: rest => g c :: mapCells g rest

def mapRows (g : List Inline → List Inline) : List (List (List Inline)) → List (List (List Inline))
  | [] => []
  | r :: rest => mapCells g r :: mapRows g rest

mutual
  /-- apply `g` to the children of every inline scope the traversal reaches:
  Paragraph, Heading / SetextHeading, TableCell — inside Document, Quote/Alert, List, ListItem, FootnoteDef. -/
  def mapScopes (g : List Inline → List Inline) : Block → Block
    | .para cs chk => .para (g cs) chk
    | .heading l cs sx => .heading l (g cs) sx
    | .table h ds rows => .table (mapCells g h) ds (mapRows g rows)
    | .list o s b t items => .list o s b t (mapScopesL g items)
    | .item bs => .item (mapScopesL g bs)
    | .quote bs => .quote (mapScopesL g bs)
    | .alert ty bs => .alert ty (mapScopesL g bs)
    | .fndef l bs => .fndef l (mapScopesL g bs)
    | b => b
  def mapScopesL (g : List Inline → List Inline) : List Block → List Block
    | [] => []
    | b :: rest => mapScopes g b :: mapScopesL g rest
end

/-- `rewrite_text_content(doc, f, coalesce_lines=True)` -/
def rewriteTextContent (f : Str → Str) (doc : List Block) : List Block :=
  mapScopesL (fun cs => mapRawInlines f (coalesceInlines cs)) doc

/-- `rewrite_text_across_inlines(doc, f)`; a scope whose rewrite violates the length assertion is
left as it is (`anyAssertion` below says whether some scope did). -/
def rewriteAcrossInlines (f : Str → Str) (doc : List Block) : List Block :=
  mapScopesL (fun cs =>
    let c := coalesceInlines cs
    match rewriteScope f c with
    | .ok r => r
    | .error _ => c) doc

def anyAssertion (f : Str → Str) : List (List Inline) → Bool
  | [] => false
  | cs :: rest => (match rewriteScope f (coalesceInlines cs) with | .ok _ => false | .error _ => true) || anyAssertion f rest

end FM
