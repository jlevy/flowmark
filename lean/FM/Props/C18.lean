import FM.Lemmas.Resolver
/-
  C18 — gitignore handling agrees with git.

  git's rule (gitignore(5)), as a specification over the same parameters as the model: every
  `.gitignore` from the traversal root down to a path's directory sees that path relative to its own
  directory; the last pattern that matches decides, files deeper down being read later; and a path
  below an ignored directory is ignored whatever the patterns say about it ("it is not possible to
  re-include a file if a parent directory of that file is excluded").  What a single pattern list
  answers for a relative path is the parameter `GiSpec` (pathspec in the code, validated against git
  itself by the harness).
-/
namespace FM.C18
open FM.Res

/-- SPEC: the path `parent ++ rest` is ignored: the last-match verdict is "ignored" for it, or for
one of the directories between `parent` and it. -/
def ignoredAlong (env : Env) : RelPath → RelPath → Bool
  | _, [] => false
  | parent, [name] => lastVerdict (gitChain env parent) (parent ++ [name]) false
  | parent, name :: rest =>
    lastVerdict (gitChain env parent) (parent ++ [name]) true || ignoredAlong env (parent ++ [name]) rest

/-- a regular file at `rest` below children `cs`, reached through regular directories -/
inductive FileAt : List Node → RelPath → Prop
  | file {cs : List Node} {name : Name} {size : Nat} : Node.file name size false ∈ cs → FileAt cs [name]
  | dir {cs kids : List Node} {name : Name} {rest : RelPath} :
      Node.dir name false kids ∈ cs → FileAt kids rest → FileAt cs (name :: rest)

theorem ignoredAlong_cons (env : Env) (parent : RelPath) (name : Name) {rest : RelPath} (h : rest ≠ []) :
    ignoredAlong env parent (name :: rest) =
      (lastVerdict (gitChain env parent) (parent ++ [name]) true || ignoredAlong env (parent ++ [name]) rest) := by
  cases rest with
  | nil => exact absurd rfl h
  | cons => rfl

theorem FileAt.ne_nil {cs : List Node} {rest : RelPath} (h : FileAt cs rest) : rest ≠ [] := by
  cases h <;> simp

/-- only gitignore is at work: every name is included, nothing is excluded, no tool ignore file, no size limit -/
structure OnlyGit (env : Env) : Prop where
  incl : ∀ n, env.incl n = true
  excl : ∀ s, env.excl s = false
  tool : env.tool = none
  size : env.maxSize = 0
  on : env.respectGi = true

theorem fileOk_onlyGit {env : Env} (h : OnlyGit env) (parent : RelPath) (name : Name) (size : Nat) (link : Bool) :
    fileOk env parent name size link = (!link && !lastVerdict (gitChain env parent) (parent ++ [name]) false) := by
  simp [fileOk, h.incl, tooBig, h.size, h.on, toolMatches, h.tool]

theorem dirExcluded_onlyGit {env : Env} (h : OnlyGit env) (parent : RelPath) (name : Name) :
    dirExcluded env parent name = lastVerdict (gitChain env parent) (parent ++ [name]) true := by
  simp [dirExcluded, h.excl, h.on, toolMatches, h.tool]

/-- AGREES: with only gitignore at work, a path is listed by traversal iff it is a regular file of
the tree (reached through regular directories) that git's rule does not ignore. -/
theorem AGREES (env : Env) (h : OnlyGit env) (parent : RelPath) (cs : List Node) (p : RelPath) :
    p ∈ walkNodes env parent cs ↔
      ∃ rest, p = parent ++ rest ∧ FileAt cs rest ∧ ignoredAlong env parent rest = false := by
  rw [mem_walkNodes_iff]
  constructor
  · intro hk
    induction hk with
    | @file parent cs name size link hm hok =>
      rw [fileOk_onlyGit h] at hok
      simp at hok
      obtain ⟨rfl, hv⟩ := hok
      exact ⟨[name], rfl, .file hm, by simpa [ignoredAlong] using hv⟩
    | @dir parent cs name kids p hm hex _ ih =>
      obtain ⟨rest, rfl, hf, hi⟩ := ih
      rw [dirExcluded_onlyGit h] at hex
      exact ⟨name :: rest, by simp, .dir hm hf, by rw [ignoredAlong_cons _ _ _ hf.ne_nil, hex, hi]; rfl⟩
  · rintro ⟨rest, rfl, hf, hi⟩
    induction hf generalizing parent with
    | @file cs name size hm =>
      refine .file hm ?_
      rw [fileOk_onlyGit h]
      simpa [ignoredAlong] using hi
    | @dir cs kids name rest hm hf ih =>
      rw [ignoredAlong_cons _ _ _ hf.ne_nil, Bool.or_eq_false_iff] at hi
      exact .dir hm (by rw [dirExcluded_onlyGit h, hi.1]) (by simpa using ih (parent ++ [name]) hi.2)

/-- LAST_MATCH: the verdict along a chain is the verdict of the deepest `.gitignore` that has a
matching pattern (`none` answers are skipped), `false` if none has. -/
theorem LAST_MATCH (chain : List (RelPath × GiSpec)) (b : RelPath × GiSpec) (path : RelPath) (isDir : Bool) :
    lastVerdict (chain ++ [b]) path isDir =
      match b.2 (if isDir then posixDir (path.drop b.1.length) else posix (path.drop b.1.length)) with
      | some v => v
      | none => lastVerdict chain path isDir := by
  rw [lastVerdict, List.foldl_append]
  rfl

/-- OFF: with `respect_gitignore` off, no `.gitignore` has any influence on a traversal. -/
theorem OFF (env : Env) (gi' : RelPath → Option GiSpec) (h : env.respectGi = false) :
    ∀ (cs : List Node) (parent : RelPath), walkNodes env parent cs = walkNodes { env with gi := gi' } parent cs :=
  walkNodes_congr (by simp [fileOk, h, tooBig, toolMatches]) (by simp [dirExcluded, h, toolMatches])

/-- non-vacuity and the two behaviours the repair introduced: an anchored pattern applies only at
its own level, and a nested `!pattern` re-includes what the parent ignores. -/
def giRoot : GiSpec := fun s => if s == [97] then some true else if s == [100, 47, 107] then none else
  if s.getLast? == some 109 then some true else none            -- "/a" anchored; "*m" everywhere
def giSub : GiSpec := fun s => if s == [107, 109] then some false else none   -- "!km" in d/
def exEnv : Env :=
  { incl := fun _ => true, excl := fun _ => false, tool := none, respectGi := true, maxSize := 0,
    gi := fun p => if p == [] then some giRoot else if p == [[100]] then some giSub else none }

example : walkNodes exEnv [] [.file [97] 1 false, .file [120, 109] 1 false,
    .dir [100] false [.file [97] 1 false, .file [107, 109] 1 false, .file [122, 109] 1 false]]
    = [[[100], [97]], [[100], [107, 109]]] := by decide +kernel

end FM.C18
