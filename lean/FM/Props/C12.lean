import FM.Model.Transforms
import FM.Lemmas.Render
import FM.Lemmas.Quotes
import FM.Lemmas.Placeholder
/-
  C12 — Formatting always terminates with well-formed output.

  What a theorem can carry: totality and output shape of everything flowmark owns (every model
  function is a total Lean definition by structural recursion or explicit fuel — there is no
  `partial` in the model). What it cannot: exceptions inside Marko, regex running time, wall
  clock — those are monitored at run time (harness/props/c12.py) and the property is partial there.
-/
namespace FM.C12
open FM

/-- ENDS_NL_partial: for every tree, wrapper, spacing mode and link table, the rendered document is
empty or ends with a newline. -/
theorem ENDS_NL_partial (cfg : RCfg) (bs : List Block) :
    renderDoc cfg bs = [] ∨ (renderDoc cfg bs).getLast? = some '\n' :=
  (ends_nl_all cfg).2.1 RState.init bs

/-- The empty case is real but confined to trees Marko never builds (a document with no block at
all, a list with no item): since the repair of the empty list item (flowmark 7e35b65) a document
that is a single empty item renders as its marker line, not as the empty string. -/
theorem EMPTY_ITEM_RENDERED :
    renderDoc { wrap := fun t _ _ => t, spacing := .preserve, defs := [] }
      [.list false 1 ['+'] true [.item []]] = "+\n".toList := by decide +kernel

/-- an empty list item still writes its own line -/
theorem ITEM_NONEMPTY_OUTPUT (cfg : RCfg) (st : RState) :
    (renderBlock cfg st (.item [])).1.getLast? = some '\n' := by
  simp [renderBlock, List.getLast?_append]

/-- NO_ASSERT: the length assertion of `rewrite_text_across_inlines` cannot fire for a
length-preserving rewrite … -/
theorem NO_ASSERT (f : Str → Str) (hf : ∀ s, (f s).length = s.length) (cs : List Inline) :
    ∃ r, rewriteScope f cs = .ok r := by
  unfold rewriteScope
  simp only
  split
  · exact ⟨_, rfl⟩
  · simp [hf]

/-- … and smart quotes are length-preserving for every text and every `\w` class (C08.Q_LENGTH). -/
theorem NO_ASSERT_smartquotes (isWord : Char → Bool) (cs : List Inline) :
    ∃ r, rewriteScope (smartQuotes isWord) cs = .ok r :=
  NO_ASSERT _ (smartQuotes_length isWord) cs

/-- CODE_BLANK: an empty line of code is emitted as the continuation prefix with its trailing
whitespace removed — so it ends in a non-space character or is empty. -/
theorem CODE_BLANK (s : Str) : ∀ c, (rstrip s).getLast? = some c → isPySpace c = false := by
  intro c h
  have := List.head?_dropWhile_not isPySpace s.reverse
  rwa [← List.getLast?_reverse, ← rstrip, h] at this

/-! ### placeholders (model `FM/Model/Placeholder.lean`, tied by op `placeholder`) -/

/-- RESTORE_EXTRACT: whatever the regular expression marked as constructs, and whatever the constructs contain, putting the
placeholders in and restoring them by one left-to-right pass gives back the text — provided the text OUTSIDE the constructs
holds no NUL (`all` is the whole construct map; the pieces are a tail of the text whose constructs are numbered from `k`). -/
theorem RESTORE_EXTRACT (all : List Str) : ∀ (ps : List Piece) (k f : Nat),
    (∀ s, Piece.text s ∈ ps → nul ∉ s) → atomsOf ps = all.drop k → (extractText ps k).length ≤ f →
    restorePH all f (extractText ps k) = flattenPieces ps
  | [], k, f, _, _, _ => by cases f <;> simp [extractText, flattenPieces, restorePH]
  | .text s :: r, k, f, hn, ha, hl => by
    simp only [extractText, List.length_append] at hl
    obtain ⟨f, rfl⟩ := Nat.exists_eq_add_of_le (show s.length ≤ f by omega)
    simp only [extractText, flattenPieces]
    rw [restorePH_text all _ f (hn s List.mem_cons_self),
      RESTORE_EXTRACT all r k f (fun x hx => hn x (List.mem_cons_of_mem _ hx)) ha (by omega)]
  | .atom a :: r, k, f, hn, ha, hl => by
    have hk : all[k]? = some a := by simpa [atomsOf, List.head?_drop] using (congrArg List.head? ha).symm
    have hr : atomsOf r = all.drop (k + 1) := by simpa [atomsOf, List.tail_drop] using congrArg List.tail ha
    have hp := placeholder_length_pos k
    simp only [extractText, List.length_append] at hl
    obtain ⟨f, rfl⟩ := Nat.exists_eq_add_of_le (show 1 ≤ f by omega)
    simp only [extractText, flattenPieces]
    rw [Nat.add_comm, restorePH_match f (matchPH_placeholder k _) hk,
      RESTORE_EXTRACT all r (k + 1) f (fun x hx => hn x (List.mem_cons_of_mem _ hx)) hr (by omega)]

/-- ROUND_TRIP: `restore(extract(text)) = text` for every segmentation of a text whose plain pieces hold no NUL. -/
theorem ROUND_TRIP (ps : List Piece) (hn : ∀ s, Piece.text s ∈ ps → nul ∉ s) :
    roundTrip ps = flattenPieces ps := by
  unfold roundTrip
  exact RESTORE_EXTRACT (atomsOf ps) ps 0 _ hn (by simp) (by omega)

theorem mem_flattenPieces : ∀ (ps : List Piece) (c : Char), c ∈ flattenPieces ps →
    (∃ s, Piece.text s ∈ ps ∧ c ∈ s) ∨ (∃ a, Piece.atom a ∈ ps ∧ c ∈ a) := by
  intro ps c
  fun_induction flattenPieces ps <;> grind

/-- NO_PLACEHOLDER_LEAK ("contains no internal placeholder or control bytes that were not in the input"): for a text
without NUL, what the splitter hands back after restoring holds no NUL either — every placeholder was put back. -/
theorem NO_PLACEHOLDER_LEAK (ps : List Piece) (hn : nul ∉ flattenPieces ps)
    (ht : ∀ s, Piece.text s ∈ ps → nul ∉ s) : nul ∉ roundTrip ps := by
  rw [ROUND_TRIP ps ht]; exact hn

/-- the repaired regression: `` `a` `b`AC0`c` `` — restoring index by index matched "\0AC0\0" across the placeholders of
`` `b` `` and `` `c` `` and left NUL bytes in the output; one left-to-right pass gives the text back. -/
example : roundTrip [.atom "`a`".toList, .text " ".toList, .atom "`b`".toList, .text "AC0".toList, .atom "`c`".toList]
    = "`a` `b`AC0`c`".toList := by decide +kernel

/-- ROUND_TRIP's hypothesis is necessary: a NUL outside the constructs can forge a placeholder (P-nul). -/
theorem ROUND_TRIP_false : ∃ ps, roundTrip ps ≠ flattenPieces ps :=
  ⟨[.atom "`a`".toList, .text [nul, 'A', 'C', '0', nul]], by decide +kernel⟩


end FM.C12
