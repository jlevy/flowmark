import FM.Generated.Patterns
import FM.Model.PatternBaseline
import FM.Lemmas.Wrap
import FM.Lemmas.Sentence
/-
  C05 — Wrapping is lossless, width-bounded and maximal.

  Theorems about the exact model `fill` / `wrapLines` of `wrap_paragraph_lines`
  (tied to the code by equality on ops `fill`, `wrapLines`, `wrapPara`).
  The sentence-mode bound (`S_BOUND_*`) is at the end; the other sentence-mode statements are in
  `Props/C11.lean`.
-/
namespace FM.C05
open FM

/-- LOSSLESS + NONEMPTY + escape discipline: the output lines are a partition of the word
sequence into non-empty lines; only heads of lines after the first are rewritten, by the
Markdown escape (and by nothing when `is_markdown` is off). -/
theorem LOSSLESS (W c0 c1 : Nat) (md : Bool) (ws : List Word) :
    LinesOf (escOf md) true ws (fill W c1 md c0 ws) :=
  fill_linesOf W c0 c1 md ws

theorem LOSSLESS_words (W c0 c1 : Nat) (md : Bool) (ws : List Word) :
    EscRel (escOf md) (fill W c1 md c0 ws).flatten ws :=
  (LOSSLESS W c0 c1 md ws).flatten_rel

theorem LOSSLESS_plain (W c0 c1 : Nat) (ws : List Word) :
    (fill W c1 false c0 ws).flatten = ws :=
  (LOSSLESS W c0 c1 false ws).flatten_fix fun _ _ => rfl

theorem NONEMPTY (W c0 c1 : Nat) (md : Bool) (ws : List Word) :
    ∀ l ∈ fill W c1 md c0 ws, l ≠ [] :=
  (LOSSLESS W c0 c1 md ws).nonempty

/-- BOUND, full strength: every line, measured from its *true* starting column (`c0` for the
first line, `c1` for the others), is within the width or is a single unbreakable word.
(Before the repair `fix: account the first word … at the initial column` this was false of the
code: `[^longlabel12]: aaaaaaa bb cc dd` at width 20 gave a 32-column breakable first line; the
proof attempt forced the hypothesis `c0 ≤ c1 ∨ first word fits`, see KNOWN_FINDINGS.json.) -/
theorem BOUND (W c0 c1 : Nat) (md : Bool) (ws : List Word) :
    BoundFrom W c0 c1 (fill W c1 md c0 ws) :=
  fill_bound W c0 c1 md ws

/-- The regression witness of the repaired defect, now within bounds on the model. -/
example : BoundFrom 20 16 4 (fill 20 4 false 16
    ["aaaaaaa".toList, "bb".toList, "cc".toList, "dd".toList]) :=
  BOUND 20 16 4 false _

/-- MAXIMAL: for consecutive lines the head of the next line (as emitted) would not have fit
on the previous line (accounting column `c0` for the first line, `c1` afterwards). -/
theorem MAXIMAL (W c0 c1 : Nat) (md : Bool) (ws : List Word) :
    MaxChain W c1 c0 (fill W c1 md c0 ws) := by
  cases ws with
  | nil => simp [fill_nil, MaxChain]
  | cons w ws =>
    rw [fill_cons]
    exact fillG_maximal (escOf_length md) (List.cons_ne_nil w []) rfl

/-- non-vacuity / sanity: a concrete wrap. -/
example : (fill 10 2 true 0 ["aaaa".toList, "bbbb".toList, "-".toList, "x".toList]).map joinSp
    = ["aaaa bbbb".toList, "\\- x".toList] := by decide +kernel

/-- NOWRAP: `width ≤ 0` yields exactly one line per paragraph segment (or none if blank). -/
theorem NOWRAP (split : Str → List Word) (text : Str) (W : Int) (c0 c1 : Nat) (md : Bool)
    (h : W ≤ 0) :
    wrapLines split text W c0 c1 md =
      (if (strip (collapseWs text)).isEmpty then [] else [strip (collapseWs text)]) := by
  simp [wrapLines, h]

theorem NOWRAP_le_one (split : Str → List Word) (text : Str) (W : Int) (c0 c1 : Nat) (md : Bool)
    (h : W ≤ 0) : (wrapLines split text W c0 c1 md).length ≤ 1 := by
  rw [NOWRAP split text W c0 c1 md h]; split <;> simp

/-! ### The rendered lines (`wrap_paragraph`: indents put in front of the filled lines) -/

/-- INDENTED_LINES (the property's sentence "every line carries the configured first-line or continuation
indent, and no wrapped line is longer than the width unless it cannot be shortened by breaking at a space"),
on the text lines `wrap_paragraph` hands back: the first is `initial_indent ++ words`, every other one is
`subsequent_indent ++ words`, and each is at most `W` characters long **as a string, indent included**, or
consists of its indent and one single word. -/
theorem INDENTED_LINES (W : Nat) (i0 s0 : Str) (md : Bool) (ws : List Word) :
    (addIndents i0 s0 false ((fill W s0.length md i0.length ws).map joinSp)).length
      = (fill W s0.length md i0.length ws).length ∧
    (∀ L ∈ (addIndents i0 s0 false ((fill W s0.length md i0.length ws).map joinSp)).head?,
      ∃ l ∈ (fill W s0.length md i0.length ws).head?, L = i0 ++ joinSp l ∧ (L.length ≤ W ∨ l.length = 1)) ∧
    (∀ L ∈ (addIndents i0 s0 false ((fill W s0.length md i0.length ws).map joinSp)).tail,
      ∃ l ∈ (fill W s0.length md i0.length ws).tail, L = s0 ++ joinSp l ∧ (L.length ≤ W ∨ l.length = 1)) :=
  indented_of_bound W i0 s0 _ (BOUND W i0.length s0.length md ws)

/-- non-vacuity: list-item indents, width 12. -/
example : addIndents "- ".toList "  ".toList false
    ((fill 12 2 true 2 ["aaaa".toList, "bbbb".toList, "cc".toList, "dddddddddddddd".toList]).map joinSp)
    = ["- aaaa bbbb".toList, "  cc".toList, "  dddddddddddddd".toList] := by decide +kernel

/-! ### Sentence mode (`line_wrap_by_sentence`) -/

/-- True-column bound of a list of output lines: line 0 starts at `i0`, the others at `s0`. -/
def SBound (W i0 s0 : Nat) (out : List Line) : Prop :=
  (∀ l ∈ out.head?, LineOK W i0 l) ∧ ∀ l ∈ out.tail, LineOK W s0 l

/-- S_BOUND at full strength is FALSE of the code and of its model: the merge of a sentence into
a short last line tests `len(last) + 1 + len(first wrapped line) <= width` without the line's
indent.  Witness: `- Go on. xxxxxxxxxxxxxxxxxxxxxx efgh ijkl` at width 30 gives a 31-column line.
(Not repaired: the repository's reference documents pin such lines; see KNOWN_FINDINGS.json.) -/
theorem S_BOUND_false :
    ¬ SBound 30 2 2 (foldSent { W := 30, i0 := 2, s0 := 2, minLen := 20, md := false } true []
      [["Go".toList, "on.".toList],
       ["xxxxxxxxxxxxxxxxxxxxxx".toList, "efgh".toList, "ijkl".toList]]) := by
  unfold SBound LineOK; decide +kernel

/-- S_BOUND_partial: measured *without* its indent every line is within the width or is a single
unbreakable word, and no line is empty — for every configuration.  With zero indents this is the
full bound. -/
theorem S_BOUND_partial (c : SCfg) : ∀ (ss : List (List Word)) (first : Bool) (lines : List Line),
    (∀ l ∈ lines, LineOK0 c.W l ∧ l ≠ []) →
    ∀ l ∈ foldSent c first lines ss, LineOK0 c.W l ∧ l ≠ [] := by
  intro ss
  induction ss with
  | nil => intro first lines h; simpa [foldSent] using h
  | cons s rest ih =>
    intro first lines h
    simp only [foldSent]
    exact ih false _ (sentStep_ok0 c first lines s h)

theorem S_BOUND_noindent (c : SCfg) (ws : List (Word × Bool)) :
    ∀ l ∈ wrapBySentence c ws, LineOK0 c.W l ∧ l ≠ [] :=
  S_BOUND_partial c _ true [] (by simp)

/-- PATTERNS_AS_MODELLED: the regular expressions of the source files this property's models were written against
(regenerated from /repo's working tree on every run by harness/translate_patterns.py) are the recorded ones. -/
theorem PATTERNS_AS_MODELLED : FM.Gen.patterns_C05 = FM.Baseline.patterns_C05 := rfl

end FM.C05
