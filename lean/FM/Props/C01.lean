import FM.Generated.Patterns
import FM.Model.PatternBaseline
import FM.Lemmas.RenderPD
import FM.Lemmas.BlockStart
import FM.Lemmas.Sentence
/-
  C01 — Formatting preserves the meaning of the document.

  (i) position-independent part: renderer state discipline on the render model
      (tied to MarkdownNormalizer by op `render`);
  (ii) position-dependent part: a word that wrapping puts at a line start must not start a block —
      theorems over the greedy fill / sentence fold and the SPEC `interruptsPara`.
  Marko's parser is a parameter (see DESIGN §4.3); the end-to-end reading oracle covers it.
-/
namespace FM.C01
open FM

/-! ### (i) renderer state discipline -/

/-- FRAME: every block hands `_second_prefix` and `_current_list_tight` back unchanged,
for every tree, wrapper and state (so nesting state cannot leak out of a container). -/
theorem FRAME (cfg : RCfg) (st : RState) (b : Block) : Frame st (renderBlock cfg st b).2 :=
  (frame_all cfg).1 st b

theorem FRAME_blocks (cfg : RCfg) (st : RState) (bs : List Block) : Frame st (renderBlocks cfg st bs).2 :=
  (frame_all cfg).2.1 st bs

/-- PREFIX_DISCIPLINE_partial: every line the renderer writes for a document — at any nesting of
lists, quotes, alerts and footnotes, for every tree, list-spacing mode and wrapper that keeps its
own contract (`WrapPD`: the lines it returns start with the prefixes it was given) — is empty or
starts with the prefix of the container it is in (first-line or continuation form, trailing
whitespace aside).  A line that lost its `  > ` or its indentation would end the enclosing
container when the output is read back; stating this theorem is what exposed two such lines in
flowmark (the separator between loose items, the empty alert).  Partial: link reference
definitions and tables are emitted as written and excluded (`plainBlocks`); bare empty lines are
allowed by `PfxOK`. -/
theorem PREFIX_DISCIPLINE_partial (cfg : RCfg) (hw : WrapPD cfg) (bs : List Block) (h : plainBlocks bs = true) :
    AllLines (PfxOK [] []) (renderDoc cfg bs) :=
  ((pd_all cfg hw).2.1 RState.init bs h (by simp [RState.init]) (by simp [RState.init])).1

/-- the same inside any container: a block rendered under prefixes `(p, s)` writes only lines that
start with `p` or `s` (or are empty) -/
theorem PREFIX_DISCIPLINE_block (cfg : RCfg) (hw : WrapPD cfg) (st : RState) (b : Block) (h : plainBlock b = true)
    (hp : '\n' ∉ st.pfx) (hs : '\n' ∉ st.snd) :
    AllLines (PfxOK st.pfx st.snd) (renderBlock cfg st b).1 :=
  ((pd_all cfg hw).1 st b h hp hs).1

/-- ADD_INDENTS_PD: the indent insertion shared by both real wrappers keeps the contract: the lines
it produces, joined by newlines, start with the first-line prefix and then the continuation prefix
(this is the wrappers' own last step before the adjacent-tag fix-up; the tag layers may afterwards
move a block-level closing tag to column 0 on purpose, which is why `WrapPD` is a hypothesis of
PREFIX_DISCIPLINE_partial and not a theorem about the complete wrappers). -/
theorem ADD_INDENTS_PD (p s : Str) (ls : List Str) (hne : ls ≠ []) (hls : ∀ l ∈ ls, '\n' ∉ l)
    (hp : '\n' ∉ p) (hs : '\n' ∉ s) :
    AllLines (PfxOK p s) (joinWith ['\n'] (addIndents p s false ls) ++ ['\n']) := by
  cases ls with
  | nil => exact absurd rfl hne
  | cons l rest =>
    apply allLines_joinWith _ (by simp [addIndents])
    intro x hx
    simp only [addIndents, Bool.false_eq_true, if_false, List.mem_cons, List.mem_map] at hx
    rcases hx with rfl | ⟨y, hy, rfl⟩
    · exact ⟨by simp [hp, hls l (by simp)], PfxOK.of_pfx _ _ _⟩
    · exact ⟨by simp [hs, hls y (by simp [hy])], PfxOK.of_snd _ _ _⟩

/-- non-vacuity of the wrapper contract: the wrapper that writes the text on one line satisfies it -/
example : WrapPD { wrap := fun t p _ => p ++ t.filter (· != '\n'), spacing := .preserve, defs := [] } := by
  intro t p s hp _
  exact .single (by simp [hp]) (PfxOK.of_pfx _ _ _)

/-! ### (ii) no hazard at introduced line heads -/

/-- The set of head words the escape covers. -/
def EscCovers (w : Word) : Prop := isSpecialWord w = true ∨ isNumeralWord w = true

/-- NH_handled: wherever the escape applies, the escaped line cannot start a list, heading,
quote, rule, setext underline or fence — for every rest of the line. -/
theorem NH_handled (w : Word) (rest : Line) (h : EscCovers w) :
    interruptsPara (escapeWord w :: rest) = false :=
  escaped_head_safe w rest h

/-- NH_classify: a line that interrupts a paragraph has a head the escape covers, or is one of the
kinds it does not cover (quote marker glued to text, rule / setext line, fence). -/
theorem NH_classify (w : Word) (rest : Line) (h : interruptsPara (w :: rest) = true) :
    EscCovers w ∨ isQuoteHead w = true ∨ isRuleLine '*' (w :: rest) = true ∨
      isRuleLine '-' (w :: rest) = true ∨ isRuleLine '_' (w :: rest) = true ∨
      isSetextLine (w :: rest) = true ∨ isFenceHead w rest = true := by
  -- the three kinds of head the escape covers; the other six disjuncts pass through
  have h1 : isAtxHead w = true → EscCovers w := fun h => by
    simp only [isAtxHead, allCh, Bool.and_eq_true] at h
    exact Or.inl (by simp [isSpecialWord, h.1.1, h.1.2])
  have h2 : isBulletHead w rest = true → EscCovers w := fun h => by
    simp only [isBulletHead, Bool.and_eq_true, Bool.or_eq_true] at h
    rcases h.1 with (h | h) | h <;> exact Or.inl (by simp [isSpecialWord, h])
  have h3 : isOrderedHead w rest = true → EscCovers w := fun h => by
    simp only [isOrderedHead, Bool.and_eq_true, Bool.or_eq_true, beq_iff_eq] at h
    rcases h.1 with rfl | rfl <;> exact Or.inr (by decide)
  simp only [interruptsPara, Bool.or_eq_true] at h
  grind

/-- NH for the greedy fill (Markdown mode): in every output line after the first, the head went
through the escape; if that line still interrupts the paragraph, the escape did not apply to it. -/
theorem NH_fill (W c0 c1 : Nat) (ws : List Word) :
    ∀ l ∈ (fill W c1 true c0 ws).tail, ∃ h t, l = escapeWord h :: t ∧
      (EscCovers h → interruptsPara l = false) := by
  intro l hl
  obtain ⟨h, t, rfl⟩ := (fill_linesOf W c0 c1 true ws).escaped_heads l hl
  exact ⟨h, t, rfl, NH_handled h t⟩

/-- The full-strength statement is FALSE of the code and of its model: `---` is not covered.
`aaaa bbbb ---` at width 10 puts `---` alone on the second line — a setext underline. -/
theorem NH_false :
    ∃ l ∈ (fill 10 0 true 0 ["aaaa".toList, "bbbb".toList, "---".toList]).tail,
      interruptsPara l = true := by decide +kernel

/-- … and in sentence mode the first word of a sentence is never escaped, even when it starts a
line: `… here. - and then` becomes a list item. -/
theorem NH_sentence_false :
    ∃ l ∈ (wrapBySentence { W := 88, i0 := 0, s0 := 0, minLen := 20, md := true }
        [("This".toList, false), ("is".toList, false), ("a".toList, false), ("long".toList, false),
         ("enough".toList, false), ("sentence".toList, false), ("here.".toList, true),
         ("-".toList, false), ("and".toList, false), ("then".toList, true)]).tail,
      interruptsPara l = true := by decide +kernel

/-- non-vacuity of NH_handled: `12)` is covered, and the escaped `1.` starts no block. -/
example : (isSpecialWord "12)".toList || isNumeralWord "12)".toList) = true ∧
    interruptsPara (escapeWord "1.".toList :: ["x".toList]) = false := by decide +kernel


/-- PATTERNS_AS_MODELLED: the regular expressions of the source files this property's models were written against
(regenerated from /repo's working tree on every run by harness/translate_patterns.py) are the recorded ones. -/
theorem PATTERNS_AS_MODELLED : FM.Gen.patterns_C01 = FM.Baseline.patterns_C01 := rfl

end FM.C01
