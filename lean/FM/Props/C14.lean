import FM.Lemmas.FsMachine
import FM.Lemmas.Route
/-
  C14 — In-place formatting never leaves a damaged or half-written file.

  Every crash point and every failing operation of a run leaves the file system in the state reached
  by a PREFIX of the run's operation list; the theorems quantify over all prefixes, all ways the
  operating system may split the write, all initial file systems.
-/
namespace FM.C14
open FM.Fs

/-- the acceptable states of a target: the complete old content; the complete new content (with the
old one in the backup file if backups are on); or — with backups on, between the two renames — no
file at the target and the complete old content in the backup file. -/
def Whole (s : State) (j : Job) : Prop :=
  s j.target = some j.old ∨
  (s j.target = some j.new ∧ (j.backup = true → s j.orig = some j.old)) ∨
  (j.backup = true ∧ s j.target = none ∧ s j.orig = some j.old)

theorem Whole.congr {s s' : State} {j : Job} (ht : s' j.target = s j.target) (ho : s' j.orig = s j.orig) :
    Whole s' j ↔ Whole s j := by
  rw [Whole, Whole, ht, ho]

/-- TARGET_WHOLE: whatever prefix of a file's operations has been carried out — the process may
have died, or an operation may have failed, at any point, in the middle of the write included — the
target is whole. -/
theorem TARGET_WHOLE (j : Job) (s : State) (k : Nat)
    (hd1 : j.target ≠ j.tmp) (hd2 : j.target ≠ j.orig) (hd3 : j.tmp ≠ j.orig)
    (hold : s j.target = some j.old) :
    Whole (exec s (j.ops.take k)) j := by
  rw [Job.ops, List.take_append, exec_append]
  -- phase 1, however far it got, has named only the temporary file
  have htgt : exec s (j.writeOps.take k) j.target = some j.old := by
    rw [exec_frame s fun op hop => by simp [writeOps_paths j op (List.mem_of_mem_take hop), hd1], hold]
  match hm : k - j.writeOps.length with
  | 0 => exact .inl htgt
  | m + 1 =>
    -- phase 1 is complete: phase 2 is one or two renames on a known state
    rw [List.take_of_length_le (by omega), exec_writeOps]
    cases hb : j.backup
    · right; left
      simp [Job.moveOps, hb, exec, apply]
    · cases m with
      | zero => right; right; simp [Job.moveOps, hb, exec, apply, hd1, hd2, hold]
      | succ m => right; left; simp [Job.moveOps, hb, exec, apply, hd1, hd3, hd1.symm, hd2.symm, hd3.symm, hold]

/-- COMPLETE: a run that is not interrupted ends with the new content in place. -/
theorem COMPLETE (j : Job) (s : State)
    (hd1 : j.target ≠ j.tmp) (hd2 : j.target ≠ j.orig) (hd3 : j.tmp ≠ j.orig)
    (hold : s j.target = some j.old) :
    exec s j.ops j.target = some j.new ∧ (j.backup = true → exec s j.ops j.orig = some j.old) := by
  rw [Job.ops, exec_append, exec_writeOps]
  cases hb : j.backup <;> simp [Job.moveOps, hb, exec, apply, hd1, hd3, hd1.symm, hd2.symm, hd3.symm, hold]

/-- INPUT_UNTOUCHED: a path that is neither the target, nor its temporary sibling, nor the backup
name is never changed by the run — in particular the input file when writing to another output. -/
theorem INPUT_UNTOUCHED (j : Job) (s : State) (k : Nat) (input : Path)
    (h1 : input ≠ j.target) (h2 : input ≠ j.tmp) (h3 : input ≠ j.orig) :
    exec s (j.ops.take k) input = s input :=
  exec_frame s fun op hop hq => by
    simpa [Job.paths, h1, h2, h3] using ops_paths j op (List.mem_of_mem_take hop) hq

/-- FAIL_NOTHING: when reading, decoding or formatting fails no operation is issued at all. -/
theorem FAIL_NOTHING (s : State) (k : Nat) : exec s (failedOps.take k) = s := by
  simp [failedOps, exec]

/-- MULTI: in a run over several files stopped anywhere, every file is whole — fully formatted, or
untouched, or in one of the backup states — never a mixture, provided no two files share a path
(targets, temporary names and backup names are pairwise distinct). -/
theorem MULTI : ∀ (jobs : List Job) (s : State) (k : Nat),
    (jobs.flatMap Job.paths).Nodup → (∀ j ∈ jobs, s j.target = some j.old) →
    ∀ j ∈ jobs, Whole (exec s ((runOps jobs).take k)) j := by
  intro jobs s k hnd hold j hj
  obtain ⟨pre, post, rfl⟩ := List.append_of_mem hj
  -- the three paths of `j` are distinct, and no job before or after it names one of them
  simp only [List.flatMap_append, List.flatMap_cons, List.nodup_append, List.mem_append, List.mem_flatMap] at hnd
  obtain ⟨-, ⟨hd, -, hpost⟩, hpre⟩ := hnd
  have hpre : ∀ q ∈ j.paths, ∀ j' ∈ pre, q ∉ j'.paths := fun q hq j' hj' h => hpre q ⟨j', hj', h⟩ q (.inl hq) rfl
  have hpost : ∀ q ∈ j.paths, ∀ j' ∈ post, q ∉ j'.paths := fun q hq j' hj' h => hpost q hq q ⟨j', hj', h⟩ rfl
  have ht : j.target ∈ j.paths := by simp [Job.paths]
  have ho : j.orig ∈ j.paths := by simp [Job.paths]
  simp only [Job.paths, List.nodup_cons, List.mem_cons, List.not_mem_nil, or_false, not_or] at hd
  -- the run is a prefix of the earlier jobs, which leave the target of `j` alone; then a prefix of `j`; then a
  -- prefix of the later jobs, which leave the target and the backup of `j` alone
  rw [runOps_append, runOps_cons, List.take_append, List.take_append, exec_append, exec_append]
  refine (Whole.congr (exec_run_frame (hpost _ ht) ..) (exec_run_frame (hpost _ ho) ..)).2
    (TARGET_WHOLE j _ _ hd.1.1 hd.1.2 hd.2.1 ?_)
  rw [exec_run_frame (hpre _ ht), hold j hj]

/-- MULTI's distinctness hypothesis is necessary (known finding C14-backup-name-is-another-argument):
when the backup name of the first file IS the second file, the second file's original content is gone
after the first file has been processed — it is neither its old nor its new content, nor recoverable. -/
theorem MULTI_false :
    let j1 : Job := { target := 0, tmp := 1, orig := 2, backup := true, old := [1], chunks := [[7]] }
    let j2 : Job := { target := 2, tmp := 3, orig := 4, backup := true, old := [5], chunks := [[8]] }
    let s0 : State := fun p => if p = 0 then some [1] else if p = 2 then some [5] else none
    let s := exec s0 ((runOps [j1, j2]).take j1.ops.length)
    s j2.target ≠ some j2.old ∧ s j2.target ≠ some j2.new ∧ s j2.orig ≠ some j2.old := by
  decide +kernel

/-- non-vacuity: a backup run, the write split in two, stopped between the two renames -/
example : Whole (exec (fun p => if p = 1 then some [9, 9] else none)
    ((Job.ops { target := 1, tmp := 2, orig := 3, backup := true, old := [9, 9], chunks := [[7], [8]] }).take 4))
    { target := 1, tmp := 2, orig := 3, backup := true, old := [9, 9], chunks := [[7], [8]] } := by
  right; right; decide +kernel

/-! ### which files a run may write at all (model `FM/Model/Route.lean`, tied by op `route`) -/
section Routing
open FM.Route

/-- ROUTE_INPUT_UNTOUCHED ("the input file is never touched unless --inplace is given"): without `--inplace`
the only file a run writes is the output path. -/
theorem ROUTE_INPUT_UNTOUCHED (files : List Arg) (output : Out) (nobackup : Bool) (acts : List Action)
    (h : reformatFiles files output false nobackup = .ok acts) :
    ∀ a ∈ acts, ∀ t, a.target? = some t → output = .path t := by
  intro a ha t ht
  cases output with
  | path o =>
    rw [reformatFiles_path] at h
    split at h <;> cases h
    cases List.mem_singleton.1 ha
    cases ht
    rfl
  | _ =>
    rw [reformatFiles_stdout _ _ (by simp)] at h
    cases h
    obtain ⟨f, _, rfl⟩ := List.mem_map.1 ha
    cases ht

/-- ROUTE_TARGETS_DISTINCT: an in-place run writes no target twice, however the arguments repeat a file — so the
jobs of `MULTI` have pairwise distinct targets (its hypothesis on the *backup* names remains: known finding
C14-backup-name-is-another-argument). -/
theorem ROUTE_TARGETS_DISTINCT (files : List Arg) (output : Out) (nobackup : Bool) (acts : List Action)
    (h : reformatFiles files output true nobackup = .ok acts) :
    (acts.filterMap Action.target?).Nodup :=
  (reformatFiles_inplace_ok h).2 ▸ inplaceLoop_nodup nobackup files []

/-- the file-system jobs of the actions of a run: the file with identity `t` lives at path `3t`, its temporary sibling at
`3t+1`, its backup at `3t+2` (names derived from the target's name, distinct for distinct files — the case where a backup name
IS another argument is the recorded finding) -/
def jobsOf (old : Nat → Content) (new : Nat → List Content) (acts : List Action) : List Job :=
  acts.filterMap fun a => match a with
    | .toFile _ t b => some { target := 3 * t, tmp := 3 * t + 1, orig := 3 * t + 2, backup := b, old := old t, chunks := new t }
    | .toStdout _ => none

theorem mem_paths_div3 {t q : Nat} {b : Bool} {o : Content} {c : List Content}
    (h : q ∈ Job.paths { target := 3 * t, tmp := 3 * t + 1, orig := 3 * t + 2, backup := b, old := o, chunks := c }) :
    q / 3 = t := by
  simp [Job.paths] at h
  omega

/-- distinct targets give jobs that share no path: the three paths of a job are distinct, and `q / 3` tells the
jobs apart -/
theorem paths_nodup_of_targets (old : Nat → Content) (new : Nat → List Content) (acts : List Action)
    (h : (acts.filterMap Action.target?).Nodup) : ((jobsOf old new acts).flatMap Job.paths).Nodup := by
  refine List.pairwise_flatMap.2 ⟨fun j hj => ?_, List.Pairwise.filterMap _ ?_ (List.pairwise_filterMap.1 h)⟩
  · obtain ⟨a, -, ha⟩ := List.mem_filterMap.1 hj
    cases a <;> cases ha
    simp [Job.paths]
  · intro a a' hne j hj j' hj' x hx y hy hxy
    cases a <;> cases a' <;> cases hj <;> cases hj'
    exact hne _ rfl _ rfl (by rw [← mem_paths_div3 hx, ← mem_paths_div3 hy, hxy])

/-- ROUTE_MULTI (the two models composed): however the arguments of an in-place run repeat files, a run stopped after any
number of file-system operations — a crash, a failing operation, the write split arbitrarily — leaves every file it was
going to write whole. -/
theorem ROUTE_MULTI (files : List Arg) (output : Out) (nobackup : Bool) (acts : List Action)
    (old : Nat → Content) (new : Nat → List Content) (s : State) (k : Nat)
    (h : reformatFiles files output true nobackup = .ok acts)
    (hs : ∀ t, s (3 * t) = some (old t)) :
    ∀ j ∈ jobsOf old new acts, Whole (exec s ((runOps (jobsOf old new acts)).take k)) j := by
  refine MULTI _ s k (paths_nodup_of_targets old new acts (ROUTE_TARGETS_DISTINCT files output nobackup acts h)) ?_
  intro j hj
  obtain ⟨a, -, ha⟩ := List.mem_filterMap.1 hj
  cases a <;> cases ha
  exact hs _

/-- the repaired regression: a file named twice is one job, not two (the second would move the formatted file
over the backup of the original). -/
example : reformatFiles [.file 0, .file 0] .none true false = .ok [.toFile (.file 0) 0 true] := by rfl

end Routing

end FM.C14
