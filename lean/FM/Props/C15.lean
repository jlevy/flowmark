import FM.Lemmas.Plumbing
import FM.Lemmas.Route
import FM.Generated.Plumbing
/-
  C15 — All entry points agree: CLI, file API and text API give the same bytes.

  The theorems are about `FM/Generated/Plumbing.lean`, which the translator regenerates from the
  `ast` of /repo's cli.py / reformat_api.py on every run: so they are re-checked against what the
  code says now.  The formatter itself is a parameter — C15 is about plumbing.  The second half is about
  the routing model of `reformat_files` (which input's text goes where; `FM/Model/Route.lean`).
-/
namespace FM.C15
open FM.Plumbing FM.Gen

def formattingOptions : List String :=
  ["width", "plaintext", "semantic", "cleanups", "smartquotes", "ellipses", "list_spacing"]

/-- What must reach the text API for option `f`, in terms of the argparse namespace. -/
def expected (f : String) : PExpr :=
  if f == "list_spacing" then .ctor "ListSpacing" "list_spacing" else .var f

/-- argparse namespace → Options → reformat_files(...) → reformat_file(...) at one call site →
positional slots of reformat_text resolved against its parameter list. -/
def chainToText (site : Layer) : List Layer :=
  [optionsCtor, mainCall, site, bindCall reformatTextParams reformatTextPositional reformatTextKeywords]

/-- … → fill_markdown(...) keywords. -/
def chainToMarkdown (site : Layer) : List Layer :=
  chainToText site ++ [bindCall fillMarkdownParams fillMarkdownPositional fillMarkdownKeywords]

/-- PASS_THROUGH (syntactic, on the regenerated tables): at *both* call sites of `reformat_file`
in `reformat_files`, every formatting option reaches `reformat_text` as the identity dataflow of
the CLI value of the same option. A swapped positional argument, a dropped keyword or a crossed
field changes a generated table and this `decide` fails. -/
theorem PASS_THROUGH_text :
    reformatFileCalls.length = 2 ∧
    ∀ site ∈ reformatFileCalls, ∀ f ∈ formattingOptions,
      through (chainToText site) f = some (expected f) := by decide +kernel

/-- … and from there into `fill_markdown` for the Markdown options (plaintext selects the branch). -/
theorem PASS_THROUGH_markdown :
    reformatTextBranch = "plaintext" ∧
    ∀ site ∈ reformatFileCalls,
      ∀ f ∈ ["width", "semantic", "cleanups", "smartquotes", "ellipses", "list_spacing"],
        through (chainToMarkdown site) f = some (expected f) := by decide +kernel

/-- … and into `fill_text` for plaintext mode: the width. -/
theorem PASS_THROUGH_plaintext :
    ∀ site ∈ reformatFileCalls,
      through (chainToText site ++ [fillTextKeywords]) "width" = some (.var "width") := by decide +kernel

/-- PASS_THROUGH (semantic): for every valuation of the command-line namespace, the value that
reaches `reformat_text`'s parameter `f` is the CLI value of `f` (wrapped in `ListSpacing` for
list_spacing) — at both call sites. -/
theorem PASS_THROUGH (env : String → Val) :
    ∀ site ∈ reformatFileCalls, ∀ f ∈ formattingOptions,
      applyAll (chainToText site) env f = eval env (expected f) := by
  intro site hs f hf
  exact through_sound _ env f _ (PASS_THROUGH_text.2 site hs f hf)

/-- Every formatting option is a command-line option whose dest is the option's name. -/
theorem CLI_HAS_OPTIONS : ∀ f ∈ formattingOptions, (cliOptions.any (·.dest == f)) = true := by decide +kernel

/-- AUTO_EXPANSION: `--auto` sets exactly inplace, nobackup, semantic, cleanups, smartquotes,
ellipses to True and nothing else. -/
theorem AUTO_EXPANSION :
    (autoAssignments.all fun p => p.2 == "True") = true ∧
    (autoAssignments.map (·.1)).Perm
      ["inplace", "nobackup", "semantic", "cleanups", "smartquotes", "ellipses"] := by decide +kernel

/-- `Options` is constructed field by field from the argparse dest of the same name (the only
rewrites: ListSpacing(list_spacing), respect_gitignore = not no_respect_gitignore). -/
theorem OPTIONS_CTOR_COMPLETE :
    (optionsFields.all fun f => (optionsCtor.get f).isSome) = true ∧
    (optionsCtor.all fun p =>
      p.2 == .var p.1 || p.2 == .ctor "ListSpacing" p.1 ||
      (p.1 == "respect_gitignore" && p.2 == .notVar "no_respect_gitignore") ||
      -- config-only setting: no command-line flag, starts as None
      (p.1 == "include" && p.2 == .const "None")) = true := by decide +kernel

/-- non-vacuity: the semantic statement instantiated on a concrete valuation. -/
example : applyAll (chainToText (reformatFileCalls.getD 1 []))
    (fun k => if k == "semantic" then .b true else .s k) "semantic" = .b true := by decide +kernel

/-! ### routing (model `FM/Model/Route.lean` of reformat_file / reformat_files, tied by op `route`) -/
section Routing
open FM.Route

/-- ROUTE_ERRORS ("usage errors … without writing anything"): a run is refused — as a whole, before any action: the
result type carries either the error or the actions, never both — exactly when `--inplace` meets stdin, or an
output path is given without `--inplace` for anything but the single stdin input. -/
theorem ROUTE_ERRORS (files : List Arg) (output : Out) (inplace nobackup : Bool) :
    (∃ e, reformatFiles files output inplace nobackup = .error e) ↔
      ((inplace = true ∧ Arg.stdin ∈ files) ∨
       (inplace = false ∧ (∃ o, output = .path o) ∧ files ≠ [.stdin])) := by
  cases inplace
  · cases output with
    | path o => rw [reformatFiles_path]; split <;> simp [*]
    | _ => simp [reformatFiles_stdout]
  · rw [reformatFiles_inplace]; split <;> simp [*]

/-- ROUTE_STDOUT_EACH_ALONE: without `--inplace`, the standard output of a run over several inputs is the
concatenation, in argument order, of what each input gives alone. -/
theorem ROUTE_STDOUT_EACH_ALONE (files : List Arg) (output : Out) (nobackup : Bool) (acts : List Action)
    (h : reformatFiles files output false nobackup = .ok acts) (hm : files ≠ [.stdin]) :
    acts = files.map .toStdout ∧
    ∀ f ∈ files, reformatFiles [f] .stdout false nobackup = .ok [.toStdout f] := by
  refine ⟨?_, fun f _ => reformatFiles_stdout [f] nobackup (by simp)⟩
  cases output with
  | path o => simp [reformatFiles_path, hm] at h
  | _ => simpa [reformatFiles_stdout, eq_comm] using h

/-- ROUTE_INPLACE_OWN_TEXT ("each file gets exactly the result it would get alone"; "never mixed"): with
`--inplace` every action writes a file's own formatted text over that same file, with a backup unless
`--nobackup`; every file argument is written; none twice. -/
theorem ROUTE_INPLACE_OWN_TEXT (files : List Arg) (output : Out) (nobackup : Bool) (acts : List Action)
    (h : reformatFiles files output true nobackup = .ok acts) :
    (∀ a ∈ acts, ∃ id, a = .toFile (.file id) id (!nobackup) ∧ Arg.file id ∈ files) ∧
    (∀ id, Arg.file id ∈ files → Action.toFile (.file id) id (!nobackup) ∈ acts) ∧
    (acts.filterMap Action.target?).Nodup := by
  obtain ⟨-, rfl⟩ := reformatFiles_inplace_ok h
  refine ⟨fun a ha => ?_, fun id hid => mem_inplaceLoop.2 ⟨id, rfl, hid, by simp⟩, inplaceLoop_nodup ..⟩
  obtain ⟨id, h1, h2, -⟩ := mem_inplaceLoop.1 ha
  exact ⟨id, h1, h2⟩

/-- ROUTE_STDIN_TO_OUTPUT: the single stdin input goes to the output path when one is given (no backup), else to
standard output; `--inplace` is refused. -/
theorem ROUTE_STDIN_TO_OUTPUT (output : Out) (nobackup : Bool) :
    reformatFiles [.stdin] output false nobackup =
      .ok [match output with | .path o => .toFile .stdin o false | _ => .toStdout .stdin] ∧
    reformatFiles [.stdin] output true nobackup = .error .inplaceStdin := by
  cases output <;> simp [reformatFiles_inplace, reformatFiles_path, reformatFiles_stdout]

/-- non-vacuity: `a.md ./a.md b.md` in place with backups — two actions, `a.md` once. -/
example : reformatFiles [.file 0, .file 0, .file 1] .none true false
    = .ok [.toFile (.file 0) 0 true, .toFile (.file 1) 1 true] := by rfl
example : reformatFiles [.file 0, .stdin] .none true false = .error .inplaceStdin := by rfl
example : reformatFiles [.file 0] (.path 5) false false = .error .outputMulti := by rfl

end Routing

end FM.C15
