import FM.Lemmas.Resolver
/-
  C17 — File discovery returns exactly the wanted files, deterministically.

  Theorems about the resolver model (FM/Model/Resolver.lean), for every tree, every answer the
  pattern matchers may give (they are parameters), every setting and every argument list.
-/
namespace FM.C17
open FM.Res

/-- EXACT (soundness and completeness of directory traversal): a path is listed iff it is a file of
the tree that matches an include pattern, is not a link, is within the size limit, is not ignored,
and every directory on the way down to it is a real (non-link) directory that is not excluded or
ignored — `Kept` says exactly that, by membership in the children lists only. -/
theorem EXACT (env : Env) (parent : RelPath) (cs : List Node) (p : RelPath) :
    p ∈ walkNodes env parent cs ↔ Kept env parent cs p := mem_walkNodes_iff env parent cs p

/-- SOUND, spelled out: whatever is listed is `dir ++ [name]` for a directory path `dir` at or
below the start, and the file passes the include pattern, is no link, is within the size limit and
is neither gitignored (when that is on) nor matched by the tool's ignore file. -/
theorem SOUND (env : Env) (parent : RelPath) (cs : List Node) (p : RelPath) (h : p ∈ walkNodes env parent cs) :
    ∃ (mid : RelPath) (name : Name) (size : Nat),
      p = parent ++ mid ++ [name] ∧ env.incl name = true ∧ tooBig env size = false ∧
      (env.respectGi = true → lastVerdict (gitChain env (parent ++ mid)) (parent ++ mid ++ [name]) false = false) ∧
      toolMatches env (posix (parent ++ mid ++ [name])) = false := by
  rw [EXACT] at h
  induction h with
  | @file parent cs name size link _ hok =>
    obtain ⟨h1, -, h2⟩ := fileOk_iff.1 hok
    exact ⟨[], name, size, by simp, h1, by simpa using h2⟩
  | @dir parent cs name kids p _ _ _ ih =>
    obtain ⟨mid, nm, size, hp, rest⟩ := ih
    exact ⟨name :: mid, nm, size, by simp [hp], by simpa using rest⟩

/-- NO_LINKS: nothing below a linked directory is listed, and no linked file is listed. -/
theorem NO_LINKS (env : Env) (parent : RelPath) (name : Name) (kids : List Node) (size : Nat) :
    walkNode env parent (.dir name true kids) = [] ∧ walkNode env parent (.file name size true) = [] := by
  simp [walkNode, fileOk]

/-- PRUNED: nothing below an excluded or ignored directory is listed. -/
theorem PRUNED (env : Env) (parent : RelPath) (name : Name) (link : Bool) (kids : List Node)
    (h : dirExcluded env parent name = true) : walkNode env parent (.dir name link kids) = [] := by
  simp [walkNode, h]

/-- LISTING_ORDER: the result of a traversal depends only on which entries a directory has, not
on the order in which the file system lists them. -/
theorem LISTING_ORDER (env : Env) (parent : RelPath) (cs cs' : List Node) (h : ∀ n, n ∈ cs ↔ n ∈ cs')
    (p : RelPath) : p ∈ walkNodes env parent cs ↔ p ∈ walkNodes env parent cs' := by
  simp only [walkNodes_eq_flatMap, List.mem_flatMap, h]

/-- EXPLICIT: a file named on the command line bypasses every rule except the size limit, and with
`force_exclude` the exclusion patterns (on its name and on the directory parts it was given with). -/
theorem EXPLICIT (excl : List Nat → Bool) (force : Bool) (maxSize : Nat) (parts : List Name) (name : Name)
    (size : Nat) (resolved : RelPath) :
    resolveArg excl force maxSize (.file parts name size resolved) =
      if (force = true ∧ (excl name = true ∨ ∃ p ∈ parts, excl (p ++ [47]) = true)) ∨ (maxSize ≠ 0 ∧ size > maxSize)
      then [] else [resolved] := by
  simp only [resolveArg, explicitOk_iff, ite_not]

/-- GLOB_FILTERED: a file found by glob expansion is listed only if it passes the include pattern,
the size limit, and the same directory and ignore filters as traversal. -/
theorem GLOB_FILTERED (excl : List Nat → Bool) (force : Bool) (maxSize : Nat) (root : RelPath) (env : Env)
    (cands : List (Cand × RelPath)) (p : RelPath) (h : p ∈ resolveArg excl force maxSize (.glob root env cands)) :
    ∃ c ∈ cands, c.2 = p ∧ env.incl (c.1.rel.getLast?.getD []) = true ∧ tooBig env c.1.size = false ∧
      filteredBelow env c.1.rel = false := by
  simp only [resolveArg, List.mem_map, List.mem_filter] at h
  obtain ⟨c, ⟨hc, hok⟩, rfl⟩ := h
  simp [globOk] at hok
  exact ⟨c, hc, rfl, hok.1.1, hok.1.2, hok.2⟩

/-- MEMBERS: the result holds exactly the files the arguments yield. -/
theorem MEMBERS (excl : List Nat → Bool) (force : Bool) (maxSize : Nat) (args : List Arg) (p : RelPath) :
    p ∈ resolveAll excl force maxSize args ↔ ∃ a ∈ args, p ∈ resolveArg excl force maxSize a := by
  simp [resolveAll, mem_foldl_insertP, List.mem_flatMap]

/-- SORTED: the result is strictly increasing in the path order (hence duplicate-free: NODUP). -/
theorem SORTED (excl : List Nat → Bool) (force : Bool) (maxSize : Nat) (args : List Arg) :
    Sorted (resolveAll excl force maxSize args) :=
  sorted_foldl_insertP _ [] .nil

theorem NODUP (excl : List Nat → Bool) (force : Bool) (maxSize : Nat) (args : List Arg) :
    (resolveAll excl force maxSize args).Nodup :=
  (SORTED excl force maxSize args).nodup

/-- ARG_ORDER: the result does not depend on the order of the arguments (nor on repeating one). -/
theorem ARG_ORDER (excl : List Nat → Bool) (force : Bool) (maxSize : Nat) (args args' : List Arg)
    (h : ∀ a, a ∈ args ↔ a ∈ args') :
    resolveAll excl force maxSize args = resolveAll excl force maxSize args' := by
  refine sorted_ext (SORTED ..) (SORTED ..) fun q => ?_
  simp only [MEMBERS, h]

/-- non-vacuity: a small tree with an excluded directory, a linked file and an oversized file -/
def exEnv : Env :=
  { incl := fun n => n.getLast? == some 100,           -- names ending in 'd' (…".md")
    excl := fun s => s == [98, 47],                     -- "b/"
    tool := none, gi := fun _ => none, respectGi := true, maxSize := 10 }

example : walkNodes exEnv [] [.file [97, 100] 3 false, .file [99, 100] 30 false, .file [101, 100] 1 true,
    .dir [98] false [.file [120, 100] 1 false], .dir [122] false [.file [121, 100] 1 false]]
    = [[[97, 100]], [[122], [121, 100]]] := by decide +kernel

end FM.C17
