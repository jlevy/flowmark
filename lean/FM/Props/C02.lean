import FM.Lemmas.Wrap
import FM.Props.C07
import FM.Props.C08
import FM.Props.C10
/-
  C02 — Formatting is idempotent.

  The wrapper layer: re-filling the words of a greedy fill's output reproduces the same lines,
  Markdown escapes included (WRAP_FIX).  The frontmatter shell: C07.FM_UNCLOSED_FIX.  The text
  rewrites: smart quotes and unbolding are NOT idempotent (witnesses), ellipses is tested
  exhaustively on bounded strings (C09).  Document level: byte equality `fmt (fmt x) = fmt x` is
  decided by the end-to-end oracle (harness/props/c02.py) with the known findings attributed.
-/
namespace FM.C02
open FM

/-- WRAP_FIX: for every word list, width, columns and both escape modes, filling the words of the
output again (as the parser hands them back: escaped heads as literal words) gives the same lines.
The escape interaction is part of the statement: a head escaped in pass 1 is, in pass 2, a longer
word that still does not fit on the previous line and is not escaped again. -/
theorem WRAP_FIX (W c0 c1 : Nat) (md : Bool) (ws : List Word) :
    fill W c1 md c0 (fill W c1 md c0 ws).flatten = fill W c1 md c0 ws := by
  cases ws with
  | nil => rfl
  | cons w ws =>
    obtain ⟨tl, h1, h2⟩ := fillG_refill (escOf_length md) (escOf_idem md) W c0 c1 (c0 + w.length)
      true ws (List.cons_ne_nil w [])
    rw [fill_cons, h1]
    exact (fill_cons ..).trans (h2 true)

/-- the escape never needs a second application -/
theorem ESCAPE_IDEM (w : Word) : escapeWord (escapeWord w) = escapeWord w := escapeWord_idem w

/-- FM_FIX: unclosed frontmatter is a fixed point of the shell (C07). -/
theorem FM_FIX (text : Str) (F : Str → Str) (hcr : '\r' ∉ text)
    (h : splitFrontmatterLines (fmLines text) = .unclosed) :
    fillShell F (fillShell F text) = fillShell F text :=
  (C07.FM_UNCLOSED_FIX text F hcr h).2

/-- the two text transforms that are not idempotent on their own (kernel-checked witnesses) -/
theorem TRANSFORM_IDEM_false :
    (smartQuotes C08.asciiWord (smartQuotes C08.asciiWord "'a \"b' c\"".toList)
        ≠ smartQuotes C08.asciiWord "'a \"b' c\"".toList) ∧
    (unboldInl (unboldInl [.strong [.strong [.raw ['x']]]]) ≠ unboldInl [.strong [.strong [.raw ['x']]]]) := by
  refine ⟨C08.Q_IDEM_false, ?_⟩
  rw [C10.UNBOLD_IDEM_false.1, C10.UNBOLD_IDEM_false.2]
  intro h; cases h

/-- non-vacuity: a wrap with an introduced escape is a fixed point -/
example : fill 10 0 true 0 (fill 10 0 true 0 ["aaaa".toList, "bbbb".toList, "-".toList, "x".toList]).flatten
    = [["aaaa".toList, "bbbb".toList], ["\\-".toList, "x".toList]] := by decide +kernel

end FM.C02
