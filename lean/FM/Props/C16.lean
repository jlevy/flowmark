import FM.Model.Config
import FM.Generated.Plumbing
import FM.Generated.Consts
/-
  C16 — Configuration precedence: explicit flag over config file over default.

  Table theorems are about the regenerated `FM/Generated/*.lean`; `merge`/`findConfig` are
  hand-written models tied by ops `merge` / `findconfig`.
-/
namespace FM.C16
open FM.Plumbing FM.Config FM.Gen

def tables : Tables :=
  { configFields := configFields, optionsFields := optionsFields, autoLocked := autoLocked }

/-- MERGE_PRECEDENCE: flag over config over default (and the `--auto` lock), for arbitrary values. -/
theorem MERGE_PRECEDENCE (t : Tables) (cli : String → Val) (cfg : String → Option Val)
    (explicit : List String) (isAuto : Bool) (f : String) :
    (f ∈ explicit → merge t cli cfg explicit isAuto f = cli f) ∧
    (cfg f = none → merge t cli cfg explicit isAuto f = cli f) ∧
    (isAuto = true → f ∈ t.autoLocked → merge t cli cfg explicit isAuto f = cli f) ∧
    (∀ v, cfg f = some v → f ∉ explicit → ¬ (isAuto = true ∧ f ∈ t.autoLocked) →
        f ∈ t.configFields → f ∈ t.optionsFields →
        merge t cli cfg explicit isAuto f = v) := by
  -- each clause is a row of `merge`'s decision table: once `cfg f` is known the hypotheses decide every `if`
  unfold merge
  refine ⟨?_, ?_, ?_, ?_⟩ <;> intros <;> cases h : cfg f <;> simp_all

/-- The Options field a config field is set through on the command line, if any
(via the regenerated `Options(...)` construction). -/
def cliDestOf (f : String) : Option String :=
  match optionsCtor.get f with
  | some (.var d) => some d
  | some (.notVar d) => some d
  | some (.ctor _ d) => some d
  | _ => none

/-- EXPLICIT_DETECTION: every setting that can be given both ways is tracked by the sentinel
parser: same flags as the real option, a sentinel default (so "passed with its default value"
still counts), and `_tracked_flags` maps its dest to the Options field. -/
theorem EXPLICIT_DETECTION :
    (configFields.all fun f =>
      match cliDestOf f with
      | none => true   -- config-only setting
      | some d =>
        trackedFlags.contains (d, f) &&
        sentinelOptions.any (fun s => s.dest == d &&
          (s.default == "_SENTINEL" || (appendDests.contains d && s.default == "None")) &&
          cliOptions.any (fun c => c.dest == d && c.flags == s.flags &&
            c.action == s.action && (c.type == s.type || c.type == "str")))) = true := by decide +kernel

/-- AUTO_LOCK: `--auto` fixes exactly the formatting switches; width and every file-discovery
setting still come from the config file. -/
theorem AUTO_LOCK :
    (configFields.filter autoLocked.contains).Perm ["semantic", "cleanups", "smartquotes", "ellipses"] ∧
    autoLocked.contains "width" = false ∧
    (["include", "extend_include", "exclude", "extend_exclude", "files_max_size",
      "respect_gitignore", "force_exclude", "list_spacing"].all fun f => !autoLocked.contains f) = true ∧
    (autoAssignments.map (·.1)).all (fun f => autoLocked.contains f) = true := by decide +kernel

/-- EVERY_KEY_EFFECTIVE: every key a config file accepts without warning is an attribute of
`Options` (so the merge can set it) and flows from there into `reformat_files(...)` or
`FileResolverConfig(...)`. -/
theorem EVERY_KEY_EFFECTIVE :
    (configFields.all fun f =>
      optionsFields.contains f &&
      (mainCall.any (fun p => p.2 == .var f) || resolverConfigCall.any (fun p => p.2 == .var f))) = true := by
  decide +kernel

/-- KEYS: the kebab-case table maps onto real fields and agrees with the generic `-`→`_` rule,
and the three config file names are searched in the documented order. -/
theorem KEYS :
    (kebabToSnake.all fun p => configFields.contains p.2 &&
      p.1.toList.map (fun c => if c == '-' then '_' else c) == p.2.toList) = true ∧
    configFilenames = [".flowmark.toml", "flowmark.toml", "pyproject.toml"] := by decide +kernel

/-- FIND_NEAREST: the nearest level that has a qualifying file wins, and inside it
`.flowmark.toml` > `flowmark.toml` > `pyproject.toml` with a [tool.flowmark] table. -/
theorem FIND_NEAREST : ∀ (ls : List Level) (i k : Nat) (w : Which),
    findConfig ls i = some (k, w) →
    ∃ j, k = i + j ∧ (∃ l, ls[j]? = some l ∧ levelPick l = some w) ∧
      ∀ j' < j, ∀ l', ls[j']? = some l' → levelPick l' = none := by
  intro ls i k w h
  fun_induction findConfig ls i with
  | case1 => cases h
  | case2 l rest i w' hp =>
    cases h
    exact ⟨0, rfl, ⟨l, rfl, hp⟩, fun j' hj' => absurd hj' (Nat.not_lt_zero _)⟩
  | case3 l rest i hp ih =>
    obtain ⟨j, hk, hl, hbefore⟩ := ih h
    refine ⟨j + 1, by omega, by simpa using hl, fun j' hj' l' hl' => ?_⟩
    cases j' with
    | zero => cases hl'; exact hp
    | succ n => exact hbefore n (by omega) l' (by simpa using hl')

theorem FIND_NONE : ∀ (ls : List Level) (i : Nat),
    findConfig ls i = none → ∀ l ∈ ls, levelPick l = none := by
  intro ls i
  fun_induction findConfig ls i <;> simp_all

theorem PICK_ORDER (l : Level) :
    (l.dotFlowmark = true → levelPick l = some .dot) ∧
    (l.dotFlowmark = false → l.flowmark = true → levelPick l = some .plain) ∧
    (l.dotFlowmark = false → l.flowmark = false → l.pyproject = true → l.pyprojectHasSection = false →
      levelPick l = none) := by
  refine ⟨?_, ?_, ?_⟩ <;> intros <;> simp_all [levelPick]

/-- non-vacuity -/
example : findConfig [⟨false, false, true, false⟩, ⟨false, true, true, true⟩, ⟨true, false, false, false⟩] 0
    = some (1, .plain) := by decide +kernel

end FM.C16
