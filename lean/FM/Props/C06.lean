import FM.Generated.Patterns
import FM.Model.PatternBaseline
import FM.Model.FullWrap
import FM.Lemmas.TagSeg
/-
  C06 — Template tags and other atomic constructs are never split or displaced.

  Theorems about the Lean models of the word splitter (`unitSplit`, `mdSplit`), the tag-newline
  layer (`segmentLines`, `rejoinSegments`) and `preprocessTagBlockSpacing`; the scanners
  (`atomSpans`) are tied to `ATOMIC_CONSTRUCT_PATTERN` by bounded-exhaustive comparison, and the
  complete wrappers (`mdFillWrapper`, `mdSentenceWrapper`) by equality on random rich paragraphs.
-/
namespace FM.C06
open FM

/-- SPAN_INTACT: whatever the mask (i.e. whatever the scanner recognises), a run of characters that
contains no *unmasked* whitespace is never split: it ends up inside one word. In particular every
atom (all of whose characters are masked) stays whole, at every width, because the wrappers only
ever break between the words this splitter returns (C05.LOSSLESS). -/
theorem SPAN_INTACT (xs ys : List (Char × Bool)) (cur : Word)
    (h : ∀ p ∈ xs, (isPySpace p.1 && !p.2) = false) :
    unitSplitAux (xs ++ ys) cur = unitSplitAux ys ((xs.map Prod.fst).reverse ++ cur) := by
  induction xs generalizing cur with
  | nil => simp
  | cons p xs ih =>
    simp only [List.forall_mem_cons] at h
    simp [unitSplitAux, h.1, ih _ h.2]

/-- no empty words -/
theorem SPLIT_NONEMPTY (text : Str) (mask : List Bool) : ∀ w ∈ unitSplit text mask, w ≠ [] :=
  unitSplitAux_nonempty _ _

/-- ALONE: an unindented line that consists of a tag (or comment) only is a segment of its own:
the segment before it is closed, and the line after it starts a new one. -/
theorem ALONE (hasTags : Bool) (L next : Str) (rest : List Str) (prev : Option Str) (cur : List Str)
    (hL : isTagOnlyLine L = true) :
    segmentLines hasTags (L :: next :: rest) prev cur =
      (if cur.isEmpty then [] else [cur.reverse]) ++ [L] :: segmentLines hasTags rest (some next) [next] := by
  obtain ⟨hu, he⟩ := tagOnly_unindented hL
  cases cur <;> simp [segmentLines, hu, he]

theorem ALONE_last (hasTags : Bool) (L : Str) (prev : Option Str) (cur : List Str)
    (hL : isTagOnlyLine L = true) :
    segmentLines hasTags [L] prev cur = (if cur.isEmpty then [] else [cur.reverse]) ++ [[L]] := by
  obtain ⟨hu, _⟩ := tagOnly_unindented hL
  cases cur <;> simp [segmentLines, hu]

/-- BLOCKGAP (rejoin): between a segment that ends with a tag and a list/table segment — and between
a list/table segment and an unindented tag line — exactly one empty line is inserted. -/
theorem BLOCKGAP (p seg : List Str) (wrapped : Str) (rest : List (List Str × Str))
    (h : needsGap p seg = true) :
    rejoinSegments ((seg, wrapped) :: rest) (some p) = [] :: wrapped :: rejoinSegments rest (some seg) := by
  simp [rejoinSegments, h]

/-- … and no blank line is invented anywhere else. -/
theorem NOGAP (p seg : List Str) (wrapped : Str) (rest : List (List Str × Str))
    (h : needsGap p seg = false) :
    rejoinSegments ((seg, wrapped) :: rest) (some p) = wrapped :: rejoinSegments rest (some seg) := by
  simp [rejoinSegments, h]

/-- PRE_GAP: before parsing, a blank line is put between a tag-only line and a directly following
list/table line (outside fenced code). -/
theorem PRE_GAP (line p : Str) (rest : List (Str × Bool))
    (hp : isBlankLine p = false) (ht : isTagOnlyLine p = true) (hb : lineIsBlock line = true) :
    ∃ tail, preprocessAux ((line, false) :: rest) (some (p, false)) = [] :: tail := by
  simp [preprocessAux, hp, ht, hb]

/-- PRE_CODE_UNTOUCHED: between two lines of a fenced code block nothing is ever inserted. -/
theorem PRE_CODE_UNTOUCHED (line p : Str) (rest : List (Str × Bool)) :
    preprocessAux ((line, true) :: rest) (some (p, true)) = line :: preprocessAux rest (some (line, true)) := by
  simp [preprocessAux]

/-- CLOSING_INLINE_KEPT: a closing tag whose opening tag is in the same text (more tags opened than
closed on the lines before it) is left exactly as the wrapper laid it out — not de-indented, no blank
line put before it — so an inline pair that wrapping happened to break stays inside its list item. -/
theorem CLOSING_INLINE_KEPT (line : Str) (rest prev acc : List Str) (h : hasUnclosedTag prev = true) :
    fixClosingAux (line :: rest) prev acc = fixClosingAux rest (line :: prev) (line :: acc) := by
  simp [fixClosingAux, h]

/-- … and a line that is not a closing tag is never touched. -/
theorem CLOSING_OTHER_KEPT (line : Str) (rest prev acc : List Str) (h : isClosingTag line = false) :
    fixClosingAux (line :: rest) prev acc = fixClosingAux rest (line :: prev) (line :: acc) := by
  simp [fixClosingAux, h]

/-- SEP (separated tags stay separated) is FALSE of the code and of its model: the space between
two tags of one family is removed by `denormalize_adjacent_tags`. -/
theorem SEP_false :
    mdFillWrapper 88 "text {% a %} {% b %} more".toList [] [] = "text {% a %}{% b %} more".toList := by
  decide +kernel

/-- ADJ: adjacent tags stay adjacent (non-vacuity of the normalise/denormalise pair). -/
example : mdFillWrapper 88 "x {% a %}{% /a %} y".toList [] [] = "x {% a %}{% /a %} y".toList := by decide +kernel

/-- however narrow the width, an atom is one word: a link with spaces at width 5. -/
example : mdFillWrapper 5 "see [a b c](http://u v) now".toList [] []
    = "see\n[a b c](http://u v)\nnow".toList := by decide +kernel


/-- PATTERNS_AS_MODELLED: the regular expressions of the source files this property's models were written against
(regenerated from /repo's working tree on every run by harness/translate_patterns.py) are the recorded ones. -/
theorem PATTERNS_AS_MODELLED : FM.Gen.patterns_C06 = FM.Baseline.patterns_C06 := rfl

end FM.C06
