import FM.Generated.Patterns
import FM.Model.PatternBaseline
import FM.Lemmas.Ellipses
/-
  C09 — Ellipsis conversion touches only three-dot runs in prose.

  Theorems about the text-level model `ellipses` (tied to `typography.ellipses.ellipses` by
  equality on op `ellipses`: all short strings over a 10-symbol alphabet plus sampled longer
  ones).  `isWord` (`\w`) is a parameter.
-/
namespace FM.C09
open FM

/-- E_SHAPE: after deleting whitespace and spelling `…` as `...`, output and input are the same
string — so the only edits are `...`→`…` and inserted spaces; no other character is dropped,
added or reordered, for every `\w` class and every text. -/
theorem E_SHAPE (isWord : Char → Bool) (s : Str) : squashE (ellipses isWord s) = squashE s :=
  ellPass_squash isWord _ _ _ _ _

/-- E_NO_DOTS: text without a full stop character is returned unchanged. -/
theorem E_NO_DOTS (isWord : Char → Bool) (s : Str) (h : '.' ∉ s) : ellipses isWord s = s :=
  ellPass_no_dot isWord _ _ _ _ h

/-- E_TAGS: a match that starts inside a template-tag span is consumed but emitted verbatim. -/
theorem E_TAGS (isWord : Char → Bool) (ls : Bool) (c : Char) (cs : Str) :
    ∃ consumed, c :: cs = consumed ++ (ellStep isWord ls true c cs).2 ∧
      (ellStep isWord ls true c cs).1 = consumed := by
  obtain ⟨consumed, hs, ht, _⟩ := ellStep_spec isWord ls true c cs
  exact ⟨consumed, hs, ht rfl⟩

def asciiWord (c : Char) : Bool := c.isAlphanum || c == '_'

/-- non-vacuity: spacing rules, the boundary test, and a protected tag. -/
example : ellipses asciiWord "wait...and then... done....".toList
    = "wait … and then … done ….".toList := by decide +kernel
example : ellipses asciiWord "x...(y) {% t a...b %} \"...\"".toList
    = "x...(y) {% t a...b %} \"…\"".toList := by decide +kernel


/-- PATTERNS_AS_MODELLED: the regular expressions of the source files this property's models were written against
(regenerated from /repo's working tree on every run by harness/translate_patterns.py) are the recorded ones. -/
theorem PATTERNS_AS_MODELLED : FM.Gen.patterns_C09 = FM.Baseline.patterns_C09 := rfl

end FM.C09
