import FM.Model.FullWrap
import FM.Lemmas.TagSeg
import FM.Lemmas.Wrap
import FM.Lemmas.Render
/-
  C03 — Output is a canonical form independent of the input's line layout.

  What the wrappers can see of the layout of a paragraph's text:
    * the base wrappers (fill and sentence, every width, both escape modes) are functions of the
      text after whitespace collapsing (LAYOUT_FN_*), and the two elementary re-layout moves —
      exchanging one whitespace character for another (a line break moved to another space) and
      multiplying whitespace (runs of spaces, re-indented continuation lines) — do not change the
      collapsed text (RELAYOUT_*);
    * the layers around them (hard breaks, tag newlines) hand the text through untouched unless a
      line starts or ends with a tag or the text holds a hard break (LAYERS_TRANSPARENT): the
      deliberate exception of the property and nothing else;
    * formatting at another width first changes nothing for the wrapper provided no Markdown escape
      was introduced (REWIDTH_partial); with an introduced escape it does (REWIDTH_false, a known
      finding: the parser hands the escape back as a literal).
  Marko's side (soft breaks, continuation indentation, lazy continuation) is covered by the
  re-layout oracle in harness/props/c03.py.
-/
namespace FM.C03
open FM

/-- RELAYOUT_break: a line break moved to another space (any whitespace for any other). -/
theorem RELAYOUT_break (a r : Str) (w1 w2 : Char) (h1 : isPySpace w1 = true) (h2 : isPySpace w2 = true) :
    collapseWs (a ++ w1 :: r) = collapseWs (a ++ w2 :: r) := collapseWs_swap a r w1 w2 h1 h2

/-- RELAYOUT_spaces: a run of whitespace made longer (or shorter). -/
theorem RELAYOUT_spaces (a r : Str) (w1 w2 : Char) (h1 : isPySpace w1 = true) (h2 : isPySpace w2 = true) :
    collapseWs (a ++ w1 :: w2 :: r) = collapseWs (a ++ w1 :: r) := collapseWs_dup a r w1 w2 h1 h2

/-- LAYOUT_FN_fill: `line_wrap_to_width`'s base wrapper, any width (≤ 0 included), any indents. -/
theorem LAYOUT_FN_fill (W : Int) (md : Bool) (t1 t2 i0 s0 : Str) (h : collapseWs t1 = collapseWs t2) :
    fillBase W md t1 i0 s0 = fillBase W md t2 i0 s0 := by
  simp [fillBase, wrapParagraph, wrapLines, h]

/-- LAYOUT_FN_sentence: `line_wrap_by_sentence`'s base wrapper, any width (≤ 0 included since the
repair of the no-wrap branch), any `min_line_len`, any character classes. -/
theorem LAYOUT_FN_sentence (cls : CharCls) (W : Int) (minLen : Nat) (md : Bool) (t1 t2 i0 s0 : Str)
    (h : collapseWs t1 = collapseWs t2) :
    sentenceBase cls W minLen md t1 i0 s0 = sentenceBase cls W minLen md t2 i0 s0 := by
  have hw : pySplit t1 = pySplit t2 := by rw [← pySplit_collapse t1, ← pySplit_collapse t2, h]
  simp only [sentenceBase, pySplit_nlToSp, hw]

/-- LAYERS_TRANSPARENT: on a text without a hard break in which no line starts or ends with a tag,
the hard-break and tag-newline layers do nothing but the multi-line-tag fix on the base result. -/
theorem LAYERS_TRANSPARENT (base : LineWrapper) (text i0 s0 : Str)
    (hhb : (splitHardBreaks text []).length = 1)
    (htag : ∀ l ∈ pySplitNl text, lineEndsWithTag l = false ∧ lineStartsWithTag l = false) :
    mdLineWrapper base text i0 s0 = fixMultilineOpening (base text i0 s0) := by
  unfold mdLineWrapper
  rw [hardBreakWrapper_single _ _ _ _ hhb, tagWrapper_tagfree base text i0 s0 htag]

/-- the one-line case needs no hypothesis on tags -/
theorem SINGLE_LINE (base : LineWrapper) (text i0 s0 : Str) (h : '\n' ∉ text) :
    mdLineWrapper base text i0 s0 = fixMultilineOpening (base text i0 s0) := by
  unfold mdLineWrapper
  rw [hardBreakWrapper_single _ _ _ _ (by rw [splitHardBreaks_no_nl text [] h]; rfl), tagWrapper_no_nl base text i0 s0 h]

/-- LAYOUT_FN: the complete Markdown wrappers give the same result on two layouts of the same text,
outside the deliberate exception. -/
theorem LAYOUT_FN (W : Int) (t1 t2 i0 s0 : Str) (h : collapseWs t1 = collapseWs t2)
    (hb1 : (splitHardBreaks t1 []).length = 1) (hb2 : (splitHardBreaks t2 []).length = 1)
    (ht1 : ∀ l ∈ pySplitNl t1, lineEndsWithTag l = false ∧ lineStartsWithTag l = false)
    (ht2 : ∀ l ∈ pySplitNl t2, lineEndsWithTag l = false ∧ lineStartsWithTag l = false) :
    mdFillWrapper W t1 i0 s0 = mdFillWrapper W t2 i0 s0 := by
  unfold mdFillWrapper
  rw [LAYERS_TRANSPARENT _ _ _ _ hb1 ht1, LAYERS_TRANSPARENT _ _ _ _ hb2 ht2, LAYOUT_FN_fill W true t1 t2 i0 s0 h]

theorem LAYOUT_FN_semantic (cls : CharCls) (W : Int) (minLen : Nat) (t1 t2 i0 s0 : Str)
    (h : collapseWs t1 = collapseWs t2)
    (hb1 : (splitHardBreaks t1 []).length = 1) (hb2 : (splitHardBreaks t2 []).length = 1)
    (ht1 : ∀ l ∈ pySplitNl t1, lineEndsWithTag l = false ∧ lineStartsWithTag l = false)
    (ht2 : ∀ l ∈ pySplitNl t2, lineEndsWithTag l = false ∧ lineStartsWithTag l = false) :
    mdSentenceWrapper cls W minLen t1 i0 s0 = mdSentenceWrapper cls W minLen t2 i0 s0 := by
  unfold mdSentenceWrapper
  rw [LAYERS_TRANSPARENT _ _ _ _ hb1 ht1, LAYERS_TRANSPARENT _ _ _ _ hb2 ht2,
    LAYOUT_FN_sentence cls W minLen true t1 t2 i0 s0 h]

/-- SOFTBREAK: a soft line break of the source reaches the wrapper as a newline and nothing else
(no state is touched), so it is one more whitespace character for the theorems above. -/
theorem SOFTBREAK (cfg : RCfg) (inH : Bool) (acc : Str) :
    renderInline cfg inH acc (.br true) = (['\n'], acc) := by
  simp [renderInline]

/-- HEADING_ONE_LINE: whatever line breaks (soft or hard) the source had inside a heading's text —
a setext heading may span several lines — none reaches the ATX heading that is written. -/
theorem HEADING_ONE_LINE : ∀ (s : Str), '\n' ∉ unbreak s := unbreak_no_nl

/-- REWIDTH_partial: the words of a fill at any width `W1`, filled again at `W2`, give what filling
the original words at `W2` gives — provided the escape is the identity on every word (no word that
would be escaped at a line start). -/
theorem REWIDTH_partial (W1 W2 c0 c1 c0' c1' : Nat) (md : Bool) (ws : List Word)
    (h : ∀ w ∈ ws, escOf md w = w) :
    fill W2 c1' md c0' (fill W1 c1 md c0 ws).flatten = fill W2 c1' md c0' ws := by
  rw [(fill_linesOf W1 c0 c1 md ws).flatten_fix h]

/-- plain-text mode introduces no escapes at all -/
theorem REWIDTH_plain (W1 W2 c0 c1 c0' c1' : Nat) (ws : List Word) :
    fill W2 c1' false c0' (fill W1 c1 false c0 ws).flatten = fill W2 c1' false c0' ws :=
  REWIDTH_partial W1 W2 c0 c1 c0' c1' false ws fun _ _ => rfl

/-- REWIDTH is FALSE in Markdown mode in general: an escape introduced at the first width is a
literal word at the second (known finding C03-introduced-escape-persists). -/
theorem REWIDTH_false :
    fill 80 0 true 0 (fill 10 0 true 0 ["aaaa".toList, "bbbb".toList, "-".toList, "x".toList]).flatten
      ≠ fill 80 0 true 0 ["aaaa".toList, "bbbb".toList, "-".toList, "x".toList] := by decide +kernel

/-- non-vacuity: two layouts of one sentence, equal after collapsing, meeting LAYOUT_FN's hypotheses -/
example : collapseWs "so much\n  text here".toList = collapseWs "so   much text\nhere".toList ∧
    (splitHardBreaks "so much\n  text here".toList []).length = 1 ∧
    (∀ l ∈ pySplitNl "so much\n  text here".toList, lineEndsWithTag l = false ∧ lineStartsWithTag l = false) := by
  decide +kernel

end FM.C03
