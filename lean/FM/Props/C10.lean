import FM.Lemmas.Render
import FM.Model.Transforms
/-
  C10 — Cleanups and list-spacing options do exactly what they say and nothing else.

  Theorems on the transform model (`unboldBlocks`, tied by op `transform`) and on the render
  model (`renderBlock`, tied by op `render` in all three spacing modes).
-/
namespace FM.C10
open FM

/-! ### cleanups -/

/-- UNBOLD_EXACT (headings): the only two shapes that change, and what they become. -/
theorem UNBOLD_STRONG (inner : List Inline) : unboldInl [.strong inner] = inner := rfl
theorem UNBOLD_EM_STRONG (inner : List Inline) : unboldInl [.em [.strong inner]] = [.em inner] := rfl

/-- a heading with two or more inline children (e.g. partly bold) is untouched -/
theorem UNBOLD_PARTLY (a b : Inline) (rest : List Inline) : unboldInl (a :: b :: rest) = a :: b :: rest := by
  simp [unboldInl]

/-- a heading whose single child is neither Strong nor Emphasis[Strong] is untouched -/
theorem UNBOLD_OTHER_raw (s : Str) : unboldInl [.raw s] = [.raw s] := rfl
theorem UNBOLD_OTHER_em_raw (s : Str) : unboldInl [.em [.raw s]] = [.em [.raw s]] := rfl
theorem UNBOLD_OTHER_code (s : Str) : unboldInl [.code s] = [.code s] := rfl

/-- UNBOLD_EXACT (everything else): paragraphs, code, rules, blank lines, link definitions and tables
are returned as they are; containers are traversed and rebuilt with the same attributes. -/
theorem UNBOLD_LEAVES :
    (∀ cs chk, unboldBlock (.para cs chk) = .para cs chk) ∧
    (∀ l e c ch n, unboldBlock (.fenced l e c ch n) = .fenced l e c ch n) ∧
    (∀ c, unboldBlock (.indented c) = .indented c) ∧
    unboldBlock .hr = .hr ∧ unboldBlock .blank = .blank ∧
    (∀ l d t, unboldBlock (.linkdef l d t) = .linkdef l d t) ∧
    (∀ h ds rows, unboldBlock (.table h ds rows) = .table h ds rows) := by
  refine ⟨?_, ?_, ?_, ?_, ?_, ?_, ?_⟩ <;> intros <;> simp [unboldBlock]

theorem UNBOLD_CONTAINERS :
    (∀ o s b t items, unboldBlock (.list o s b t items) = .list o s b t (unboldBlocks items)) ∧
    (∀ bs, unboldBlock (.quote bs) = .quote (unboldBlocks bs)) ∧
    (∀ ty bs, unboldBlock (.alert ty bs) = .alert ty (unboldBlocks bs)) ∧
    (∀ l bs, unboldBlock (.fndef l bs) = .fndef l (unboldBlocks bs)) ∧
    (∀ lvl cs sx, unboldBlock (.heading lvl cs sx) = .heading lvl (unboldInl cs) sx) := by
  refine ⟨?_, ?_, ?_, ?_, ?_⟩ <;> intros <;> simp [unboldBlock]

theorem unboldBlocks_length : ∀ (bs : List Block), (unboldBlocks bs).length = bs.length
  | [] => rfl
  | _ :: rest => by simp [unboldBlocks, unboldBlocks_length rest]

/-- unbolding is NOT idempotent (relevant to C02): `# ****x****` needs two passes. -/
theorem UNBOLD_IDEM_false :
    unboldInl (unboldInl [.strong [.strong [.raw ['x']]]]) = [.raw ['x']] ∧
    unboldInl [.strong [.strong [.raw ['x']]]] = [.strong [.raw ['x']]] := ⟨rfl, rfl⟩

/-! ### list spacing -/

/-- ITEM_TIGHT: in a list rendered tight, an item emits no separator at all. -/
theorem ITEM_TIGHT (cfg : RCfg) (st : RState) (bs : List Block) (h : st.listTight = true) (hne : bs ≠ []) :
    (renderBlock cfg st (.item bs)).1 = (renderBlocks cfg st bs).1 := by
  cases st with
  | mk pfx snd suppress skipBlank listTight acc =>
    simp only at h
    subst h
    simp [renderBlock, hne]

/-- ITEM_LOOSE: in a list rendered loose, an item that is not the first thing after a separator
already emitted (`suppress = false`) starts with exactly one separator line: the container's
continuation prefix stripped (empty at top level, `>` in a quote) and a newline. -/
theorem ITEM_LOOSE (cfg : RCfg) (st : RState) (bs : List Block) (h : st.listTight = false)
    (hs : st.suppress = false) (hne : bs ≠ []) :
    (renderBlock cfg st (.item bs)).1 =
      rstrip st.snd ++ '\n' :: (renderBlocks cfg { st with suppress := false } bs).1 := by
  simp [renderBlock, h, hs, hne]

/-- ITEM_EMPTY: an item with nothing in it is written as its marker (the first-line prefix without its
trailing space) on a line of its own, after the same separator as any other item. -/
theorem ITEM_EMPTY (cfg : RCfg) (st : RState) :
    (renderBlock cfg st (.item [])).1 =
      (if st.listTight then [] else if st.suppress then [] else rstrip st.snd ++ ['\n']) ++ rstrip st.pfx ++ ['\n'] := by
  simp [renderBlock]

/-- … and right after a heading / blank line / definition (which already separated), none. -/
theorem ITEM_LOOSE_suppressed (cfg : RCfg) (st : RState) (bs : List Block) (h : st.listTight = false)
    (hs : st.suppress = true) (hne : bs ≠ []) :
    (renderBlock cfg st (.item bs)).1 = (renderBlocks cfg { st with suppress := false } bs).1 := by
  simp [renderBlock, h, hs, hne]

/-- ITEM_FIRST_IN_CONTAINER: in a loose list, an item that starts on the first line of its container
(the first-line prefix — an enclosing item's marker, a footnote label — has not been used yet) is
written without a separator line in front of it, whatever the suppress flag said. -/
theorem ITEM_FIRST_IN_CONTAINER (cfg : RCfg) (st : RState) (o : Bool) (s : Nat) (b : Str) (i : Nat)
    (bs : List Block) (rest : List Block) (h : st.listTight = false) (hp : st.pfx ≠ st.snd) (hne : bs ≠ []) :
    (renderBlocks cfg { st with pfx := st.pfx ++ (itemPrefix o s i b).1, snd := st.snd ++ (itemPrefix o s i b).2,
                                suppress := false } bs).1 <+: (renderItems cfg st o s b i (.item bs :: rest)).1 := by
  simp [renderItems, renderBlock, h, hp, hne]

/-- MODE: which tightness a list's items are rendered with. -/
theorem MODE_loose (cfg : RCfg) (st : RState) (o : Bool) (s : Nat) (b : Str) (t : Bool) (items : List Block)
    (h : cfg.spacing = .loose) :
    (renderBlock cfg st (.list o s b t items)).1 =
      (renderItems cfg { st with skipBlank := false, listTight := false } o s b 0 items).1 := by
  simp [renderBlock, h]

theorem MODE_preserve (cfg : RCfg) (st : RState) (o : Bool) (s : Nat) (b : Str) (t : Bool) (items : List Block)
    (h : cfg.spacing = .preserve) :
    (renderBlock cfg st (.list o s b t items)).1 =
      (renderItems cfg { st with skipBlank := false, listTight := t } o s b 0 items).1 := by
  simp [renderBlock, h]

theorem MODE_tight (cfg : RCfg) (st : RState) (o : Bool) (s : Nat) (b : Str) (t : Bool) (items : List Block)
    (h : cfg.spacing = .tight) :
    (renderBlock cfg st (.list o s b t items)).1 =
      (renderItems cfg { st with skipBlank := false, listTight := canBeTight items } o s b 0 items).1 := by
  simp [renderBlock, h]

/-- the tightness chosen for a list is what each of its items sees, however deeply the items'
own content nests other lists (FRAME: every block hands `_current_list_tight` back). -/
theorem ITEMS_SEE_LIST_TIGHTNESS (cfg : RCfg) (st : RState) (o : Bool) (s : Nat) (b : Str) (i : Nat)
    (item : Block) :
    let r := renderBlock cfg { st with pfx := st.pfx ++ (itemPrefix o s i b).1, snd := st.snd ++ (itemPrefix o s i b).2 } item
    r.2.listTight = st.listTight := by
  intro r
  exact ((frame_all cfg).1 _ item).2

/-- `canBeTight`: only lists whose items each hold at most one block. -/
theorem CAN_BE_TIGHT_items : ∀ (items : List Block),
    canBeTight items = true → ∀ bs, Block.item bs ∈ items → bs.length ≤ 1 := by
  intro items
  fun_induction canBeTight items with
  | case1 => simp
  | case2 bs0 rest ih =>
    intro h bs hm
    simp only [Bool.and_eq_true, decide_eq_true_eq] at h
    rcases List.mem_cons.1 hm with e | hm
    · cases e; exact h.1
    · exact ih h.2 bs hm
  | case3 head rest hne ih =>
    intro h bs hm
    rcases List.mem_cons.1 hm with rfl | hm
    · exact absurd rfl (hne bs)
    · exact ih h bs hm

end FM.C10
