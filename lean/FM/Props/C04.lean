import FM.Generated.Patterns
import FM.Model.PatternBaseline
import FM.Lemmas.Render
import FM.Lemmas.Str
import FM.Model.Transforms
/-
  C04 — Code, tags, URLs and other non-prose spans are reproduced verbatim.

  Theorems on the render model (tied by op `render`) and the transform models (tied by op
  `transform`).  Which spans are template tags is the scanners' business (C06/C08 ties).
-/
namespace FM.C04
open FM

/-! ### a fence is always long enough to contain its content -/

/-- FENCE_SAFE: for every content and both fence characters, every content line's fence-like run
at its start (≤ 3 spaces of indentation — the only place a closing fence can stand) is strictly
shorter than the fence the renderer emits, whatever the original fence length was. So no line of
the code can close the block early; `minFenceLength` is "one more than the longest run, at least 3". -/
theorem FENCE_SAFE (content : Str) (ch : Char) (flen : Nat) :
    ∀ l ∈ pySplitNl content, fenceRunAtLineStart ch l < max flen (minFenceLength content ch) :=
  fun _ hl => Nat.lt_of_lt_of_le (lt_minFenceLength ch hl) (Nat.le_max_right _ _)

/-- and the emitted fence is never shorter than the original one -/
theorem FENCE_KEEPS_LENGTH (content : Str) (ch : Char) (flen : Nat) :
    flen ≤ max flen (minFenceLength content ch) ∧ 3 ≤ max flen (minFenceLength content ch) := by
  constructor
  · exact Nat.le_max_left _ _
  · have : 3 ≤ minFenceLength content ch := by unfold minFenceLength; exact Nat.le_max_left _ _
    exact Nat.le_trans this (Nat.le_max_right _ _)

/-! ### text rewrites are confined to RawText payloads -/

mutual
  /-- forget the text of RawText nodes, keep everything else -/
  def shape : Inline → Inline
    | .raw _ => .raw []
    | .em cs => .em (shapes cs)
    | .strong cs => .strong (shapes cs)
    | .strike cs => .strike (shapes cs)
    | .link cs d t => .link (shapes cs) d t
    | .image cs d t => .image (shapes cs) d t
    | i => i
  def shapes : List Inline → List Inline
    | [] => []
    | c :: rest => shape c :: shapes rest
end

mutual
  /-- REWRITE_CONFINED (ellipses path): the rewriting step of `rewrite_text_content` (`mapRawInline`, applied
  after coalescing) with any `f` changes RawText payloads
  only — every code span, HTML, literal, autolink, URL, image, link destination and title is
  syntactically identical before and after. -/
  theorem REWRITE_CONFINED (f : Str → Str) : ∀ (i : Inline), shape (mapRawInline f i) = shape i
    | .em cs | .strong cs | .strike cs | .link cs _ _ => by simp [mapRawInline, shape, REWRITE_CONFINED_list f cs]
    | .raw _ => by simp [mapRawInline, shape]
    | .code _ | .image _ _ _ | .autolink _ | .url _ | .br _ | .lit _ | .html _ | .fnref _ => by simp [mapRawInline]
  theorem REWRITE_CONFINED_list (f : Str → Str) : ∀ (cs : List Inline), shapes (mapRawInlines f cs) = shapes cs
    | [] => by simp [mapRawInlines, shapes]
    | c :: rest => by simp [mapRawInlines, shapes, REWRITE_CONFINED f c, REWRITE_CONFINED_list f rest]
end

mutual
  /-- WRITEBACK_CONFINED (smart-quotes path): writing a converted composite back changes RawText
  payloads only, for every converted text (even one of the wrong length). -/
  theorem WRITEBACK_CONFINED : ∀ (i : Inline) (conv : Str), shape (writeBack i conv).1 = shape i
    | .em cs, conv | .strong cs, conv | .strike cs, conv | .link cs _ _, conv | .image cs _ _, conv => by
      simp [writeBack, shape, WRITEBACK_CONFINED_list cs conv]
    | .raw _, _ => by simp [writeBack, shape]
    | .code _, _ | .autolink _, _ | .url _, _ | .br _, _ | .lit _, _ | .html _, _ | .fnref _, _ => by simp [writeBack]
  theorem WRITEBACK_CONFINED_list : ∀ (cs : List Inline) (conv : Str), shapes (writeBackL cs conv).1 = shapes cs
    | [], _ => by simp [writeBackL, shapes]
    | c :: rest, conv => by
      simp [writeBackL, shapes, WRITEBACK_CONFINED c conv, WRITEBACK_CONFINED_list rest (writeBack c conv).2]
end

/-! ### destinations and code spans are emitted as they are -/

/-- how a reader takes the container prefix off a code line again -/
def unprefixCode (snd line : Str) : Str := if line == rstrip snd then [] else line.drop snd.length

/-- CODE_LINES_VERBATIM: every line of a code block's content is written as the continuation prefix
followed by the line itself (a blank line as the prefix without its trailing whitespace), so taking
the prefix off again gives back exactly the content lines — for every content, prefix and fence. -/
theorem CODE_LINES_VERBATIM (snd : Str) (ls : List Str) :
    (ls.map fun l => if l.isEmpty then rstrip snd else snd ++ l).map (unprefixCode snd) = ls := by
  have key : ∀ l : Str, unprefixCode snd (if l.isEmpty then rstrip snd else snd ++ l) = l := by
    rintro (_ | ⟨a, t⟩)
    · simp [unprefixCode]
    · -- a written line is longer than the stripped prefix, so it is not taken for a blank one
      have hlen := (rstrip_prefix snd).length_le
      have hneq : (snd ++ a :: t == rstrip snd) = false :=
        beq_false_of_ne fun e => by rw [← e] at hlen; simp at hlen; omega
      simp [unprefixCode, hneq]
  rw [List.map_map]
  exact (List.map_congr_left fun l _ => key l).trans (List.map_id' ls)

/-- a link without a matching reference definition is written `[text](dest)` with `dest` unchanged — inside pointy brackets
exactly when it holds blanks (the only way such a destination can be written; before the repair
C04-destination-with-blanks it was written bare, which is no link at all) -/
theorem DEST_VERBATIM (cfg : RCfg) (inH : Bool) (acc : Str) (cs : List Inline) (dest : Str)
    (h : findLabel cfg.defs dest none = none) :
    (renderInline cfg inH acc (.link cs dest none)).1 =
      '[' :: (renderInlines cfg inH acc cs).1 ++ "](".toList ++ writtenDest dest ++ [')'] ∧
    (writtenDest dest = dest ∨ writtenDest dest = '<' :: dest ++ ['>']) ∧
    ((dest.any fun c => c == ' ' || c == '\t' || c == '\n') = false → writtenDest dest = dest) := by
  refine ⟨by simp [renderInline, h], ?_, ?_⟩
  · unfold writtenDest; split
    · right; rfl
    · left; rfl
  · intro hb; unfold writtenDest; simp [hb]

example : writtenDest "http://x.y/a b".toList = "<http://x.y/a b>".toList ∧ writtenDest "http://x".toList = "http://x".toList := by decide +kernel

/-- code span content is emitted unchanged between delimiters longer than any backtick run in it -/
theorem SPAN_VERBATIM (t : Str) :
    ∃ d pad, renderCodeSpan t = d ++ pad ++ t ++ pad ++ d ∧ d = List.replicate (longestRun '`' t 0 0 + 1) '`' := by
  unfold renderCodeSpan
  simp only
  split
  · exact ⟨_, [' '], by simp, rfl⟩
  · exact ⟨_, [], by simp, rfl⟩

/-- non-vacuity: fence-like content forces a longer fence -/
example : minFenceLength "a\n````\n  ```\nb".toList '`' = 5 := by decide +kernel
example : minFenceLength "a\n    ````\nb".toList '`' = 3 := by decide +kernel


/-- PATTERNS_AS_MODELLED: the regular expressions of the source files this property's models were written against
(regenerated from /repo's working tree on every run by harness/translate_patterns.py) are the recorded ones. -/
theorem PATTERNS_AS_MODELLED : FM.Gen.patterns_C04 = FM.Baseline.patterns_C04 := rfl

end FM.C04
