import FM.Model.Isolation
import FM.Generated.State
/-
  C13 — Each formatting call is isolated from other calls.

  ISO: in a process whose shared state keeps an invariant that every step preserves, and whose steps
  compute the same new local state whatever invariant-satisfying shared state they see (shared cells
  are constants, or caches of pure functions), every thread ends, under every schedule — every
  interleaving and every history of earlier calls — with exactly the local state (hence the result)
  it reaches when it runs alone.
  INVENTORY_CLEAN: the inventory of shared cells that the translator regenerates from
  /repo/src/flowmark on every run holds no cell of kind `mutable`, and the per-call construction
  facts hold.  What ties the two is the reading of the kinds (a constant is never written; a cached
  function returns what it would compute): Python's semantics, part of the trusted base.
-/
namespace FM.C13
open FM.Iso FM.Gen

variable {S L : Type}

/-- the result of running alone does not depend on which invariant-satisfying shared state it starts from -/
theorem solo_indep (sys : Sys S L)
    (hinv : ∀ s l, sys.Inv s → sys.Inv (sys.step s l).1)
    (hloc : ∀ s s' l, sys.Inv s → sys.Inv s' → (sys.step s l).2 = (sys.step s' l).2) :
    ∀ (k : Nat) (s s' : S) (l : L), sys.Inv s → sys.Inv s' → solo sys s l k = solo sys s' l k
  | 0, _, _, _, _, _ => rfl
  | k + 1, s, s', l, h, h' => by
    simp only [solo]
    rw [hloc s s' l h h']
    exact solo_indep sys hinv hloc k _ _ _ (hinv s l h) (hinv s' l h')

theorem ISO (sys : Sys S L)
    (hinv : ∀ s l, sys.Inv s → sys.Inv (sys.step s l).1)
    (hloc : ∀ s s' l, sys.Inv s → sys.Inv s' → (sys.step s l).2 = (sys.step s' l).2) :
    ∀ (sched : List Nat) (s s0 : S) (ls : Nat → L) (i : Nat), sys.Inv s → sys.Inv s0 →
      (run sys s ls sched).2 i = solo sys s0 (ls i) (sched.count i)
  | [], _, _, _, _, _, _ => rfl
  | j :: sched, s, s0, ls, i, h, h0 => by
    rw [run]
    by_cases hij : j = i
    · -- thread `i` steps: alone it takes the same step, from `s0`
      subst hij
      rw [ISO sys hinv hloc sched _ (sys.step s0 (ls j)).1 _ j (hinv _ _ h) (hinv _ _ h0)]
      simp [upd, solo, hloc s0 s (ls j) h0 h]
    · -- another thread steps: the local state of `i` is not touched
      rw [ISO sys hinv hloc sched _ s0 _ i (hinv _ _ h) h0]
      simp [upd, hij, Ne.symm hij]

/-- the shared state itself satisfies the invariant at every point of every schedule -/
theorem INV_ALWAYS (sys : Sys S L) (hinv : ∀ s l, sys.Inv s → sys.Inv (sys.step s l).1) :
    ∀ (sched : List Nat) (s : S) (ls : Nat → L), sys.Inv s → sys.Inv (run sys s ls sched).1
  | [], _, _, h => h
  | j :: sched, s, ls, h => by
    simp only [run]
    exact INV_ALWAYS sys hinv sched _ _ (hinv _ _ h)

/-- INVENTORY_CLEAN: no shared cell of the package is mutable state (regenerated table). -/
theorem INVENTORY_CLEAN : ∀ c ∈ stateCells, c.2.2 ≠ CellKind.mutable := by decide +kernel

/-- CALL_PATH_FRESH: the parser, the renderer and the Markdown object are built inside each call. -/
theorem CALL_PATH_FRESH : ∀ f ∈ callPathFacts, f.2 = true := by decide +kernel

/-! ### non-vacuity: a process with a constant and a cache of a pure function meets ISO's hypotheses -/

/-- shared: a constant and a memo table for `f n = 2 * n + const` -/
structure Shared where
  const : Nat
  memo : Nat → Option Nat

/-- local: the argument, and the result once computed -/
structure Local where
  arg : Nat
  result : Option Nat

def exSys : Sys Shared Local where
  step s l :=
    match s.memo l.arg with
    | some v => (s, { l with result := some v })
    | none =>
      let v := 2 * l.arg + 7
      ({ s with memo := fun k => if k = l.arg then some v else s.memo k }, { l with result := some v })
  Inv s := s.const = 7 ∧ ∀ k v, s.memo k = some v → v = 2 * k + 7

theorem exSys_inv : ∀ s l, exSys.Inv s → exSys.Inv (exSys.step s l).1 := by
  intro s l h
  simp only [exSys]
  split
  · exact h
  · refine ⟨h.1, fun k v hk => ?_⟩
    dsimp only at hk
    split at hk
    next hka => cases hk; rw [hka]
    next => exact h.2 k v hk

theorem exSys_loc : ∀ s s' l, exSys.Inv s → exSys.Inv s' → (exSys.step s l).2 = (exSys.step s' l).2 := by
  intro s s' l h h'
  -- memo hit or miss, a step from a state that satisfies the invariant yields `2 * l.arg + 7`
  have key : ∀ s, exSys.Inv s → (exSys.step s l).2 = { l with result := some (2 * l.arg + 7) } := by
    intro s h
    simp only [exSys]
    split
    next v hm => rw [h.2 _ _ hm]
    next => rfl
  rw [key s h, key s' h']

/-- every thread of the example process computes its own result under every schedule -/
example (sched : List Nat) (s : Shared) (ls : Nat → Local) (i : Nat) (h : exSys.Inv s) :
    (run exSys s ls sched).2 i = solo exSys s (ls i) (sched.count i) :=
  ISO exSys exSys_inv exSys_loc sched s s ls i h h

end FM.C13
