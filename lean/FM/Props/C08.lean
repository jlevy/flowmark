import FM.Generated.Patterns
import FM.Model.PatternBaseline
import FM.Lemmas.Quotes
/-
  C08 — Smart quotes only swap individual quote characters, and only in prose.

  Theorems about the text-level model `smartQuotes` (tied to `smart_quotes` by equality on op
  `quotes`: all short strings over a 16-symbol alphabet plus sampled longer ones).  `isWord`
  (`\w` of Python's `re`) is a parameter.
-/
namespace FM.C08
open FM

/-- Q_POINTWISE: the output has the same length as the input and differs from it only at
positions holding `'` (which may become ‘ or ’) or `"` (which may become “ or ”). -/
theorem Q_POINTWISE (isWord : Char → Bool) (s : Str) : QRelS s (smartQuotes isWord s) :=
  smartQuotes_rel isWord s

theorem Q_LENGTH (isWord : Char → Bool) (s : Str) : (smartQuotes isWord s).length = s.length :=
  smartQuotes_length isWord s

/-- Every non-quote character survives in place: line breaks, letters, tag delimiters … -/
theorem Q_OTHER_CHARS (isWord : Char → Bool) (s : Str) (i : Nat) (c : Char)
    (h : s[i]? = some c) (hq : c ≠ '\'' ∧ c ≠ '"') : (smartQuotes isWord s)[i]? = some c := by
  obtain ⟨d, hd, rfl | ⟨h1, _⟩ | ⟨h1, _⟩⟩ := (smartQuotes_rel isWord s).getElem? h
  · exact hd
  · exact absurd h1 hq.1
  · exact absurd h1 hq.2

/-- Q_TAGS: the text is cut into template-tag spans and the text between them; tag spans are
copied verbatim, and quote pairing never crosses a tag (each stretch is processed on its own). -/
theorem Q_TAGS (isWord : Char → Bool) (s : Str) :
    let segs := tagSegments s.length s []
    (segs.map Prod.snd).flatten = s ∧
    smartQuotes isWord s =
      (segs.map fun p => if p.1 then p.2 else applySmartQuotes isWord p.2).flatten :=
  ⟨tagSegments_concat s.length s [], rfl⟩

/-- Q_PARA: a quote pair whose content contains a paragraph break is left as it is. -/
theorem Q_PARA (q o cl : Char) (cs content rest : Str)
    (h1 : scanContent q o cl cs = some (content, rest)) (h2 : suffixOk rest = true)
    (hp : hasParaBreak content = true) :
    quoteSpan q o cl cs = some (q :: content ++ [q], rest) :=
  quoteSpan_eq_some.2 ⟨content, h1, h2, by simp [hp]⟩

/-- Q_LOOKAHEAD: the character after the closing quote is never consumed: the rest to scan starts
right after the closing quote, so the same character can open the next quoted string. -/
theorem Q_LOOKAHEAD (q o cl : Char) (cs out rest : Str) (h : quoteSpan q o cl cs = some (out, rest)) :
    ∃ content, scanContent q o cl cs = some (content, rest) ∧ out.length = content.length + 2 := by
  obtain ⟨content, hs, _, rfl⟩ := quoteSpan_eq_some.1 h
  exact ⟨content, hs, by split <;> simp⟩

def asciiWord (c : Char) : Bool := c.isAlphanum || c == '_'

/-- non-vacuity: typical prose, and a tag whose quotes stay straight. -/
example : smartQuotes asciiWord "He said \"yes\" and it's 'fine'.".toList
    = "He said “yes” and it’s ‘fine’.".toList := by decide +kernel
example : smartQuotes asciiWord "a {% t k=\"v\" %} \"b\"".toList
    = "a {% t k=\"v\" %} “b”".toList := by decide +kernel

/-- adjacent quoted strings are all converted in one pass (the defect fixed in flowmark fafdec6) -/
example : smartQuotes asciiWord "He said \"yes\" \"no\" and 'a'—'b'".toList
    = "He said “yes” “no” and ‘a’—‘b’".toList := by decide +kernel

/-- Idempotence is still FALSE of the code and of its model (this matters for C02): a single-quoted
span that overlaps a double-quoted one hides the latter from the first pass only. -/
theorem Q_IDEM_false :
    smartQuotes asciiWord (smartQuotes asciiWord "'a \"b' c\"".toList)
      ≠ smartQuotes asciiWord "'a \"b' c\"".toList := by decide +kernel


/-- PATTERNS_AS_MODELLED: the regular expressions of the source files this property's models were written against
(regenerated from /repo's working tree on every run by harness/translate_patterns.py) are the recorded ones. -/
theorem PATTERNS_AS_MODELLED : FM.Gen.patterns_C08 = FM.Baseline.patterns_C08 := rfl

end FM.C08
