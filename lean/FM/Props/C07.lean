import FM.Lemmas.Frontmatter
/-
  C07 — YAML frontmatter is passed through exactly and does not influence the body.

  Theorems about the model `splitFrontmatter` / `fillShell` (tied by equality on ops
  `frontmatter`, `fmshell`).  The Markdown formatter of the body is a parameter `F`.
-/
namespace FM.C07
open FM

/-- FM_NONE: a document whose first non-blank line is not a `---` line has no frontmatter:
the whole text is content. -/
theorem FM_NONE (text : Str) (h : splitFrontmatterLines (fmLines text) = .none) (F : Str → Str) :
    splitFrontmatter text = ([], text) ∧ fillShell F text = F text := by
  simp [splitFrontmatter, fillShell, h]

/-- FM_PARTITION (exactness at line level): when a closed block is found, the document's lines are
`blank lines ++ frontmatter lines ++ body lines`; no line is altered, dropped or invented; the
block is `---`, lines that are not delimiters, `---`. -/
theorem FM_PARTITION (ls fm body : List Str) (h : splitFrontmatterLines ls = .closed fm body) :
    ∃ pre o mid c, ls = pre ++ fm ++ body ∧ fm = o :: mid ++ [c] ∧
      (∀ l ∈ pre, isBlank l = true) ∧ isDelim o = true ∧ isDelim c = true ∧
      ∀ l ∈ mid, isDelim l = false := by
  rcases splitFrontmatterLines_cases ls with
    e | ⟨pre, o, rest, rfl, hpre, ho, ⟨mid, c, body', rfl, hm, hc, e⟩ | ⟨-, e⟩⟩ <;> rw [e] at h <;> cases h
  exact ⟨pre, o, mid, c, by simp, rfl, hpre, ho, hc, hm⟩

/-- The lines the splitter works on are the text itself (CRLF → LF), up to one final newline. -/
theorem LINES_FAITHFUL (text : Str) :
    joinWith ['\n'] (fmLines text) = replaceCRLF text ∨
    joinWith ['\n'] (fmLines text) ++ ['\n'] = replaceCRLF text :=
  join_popped (replaceCRLF text)

/-- FM_UNCLOSED (result): a document whose opening `---` is never closed is returned as is, with a
final newline ensured — provided the text has at most one delimiter line, which `UNCLOSED_COUNT`
shows is the case for CR-free text. -/
theorem FM_UNCLOSED (text : Str) (F : Str → Str)
    (h : splitFrontmatterLines (fmLines text) = .unclosed) (hne : text ≠ [])
    (hc : delimCount text < 2) :
    fillShell F text = ensureFinalNl text := by
  have he : text.isEmpty = false := by cases text <;> simp_all
  unfold fillShell splitFrontmatter
  rw [h]
  simp [he, hc]

theorem ensureFinalNl_idem (s : Str) : ensureFinalNl (ensureFinalNl s) = ensureFinalNl s := by
  unfold ensureFinalNl
  split
  · rename_i h; simp
  · simp [List.getLast?_append]

/-- UNCLOSED_COUNT: for CR-free text, an unclosed block has exactly one delimiter line, so the
`< 2` test of `fill_markdown` recognises it. -/
theorem UNCLOSED_COUNT (text : Str) (hcr : '\r' ∉ text)
    (h : splitFrontmatterLines (fmLines text) = .unclosed) : delimCount text = 1 := by
  unfold delimCount
  rw [← filter_delim_fmLines text hcr]
  exact unclosed_count _ h

/-- FM_UNCLOSED_FIX: "however often it is formatted" — for CR-free text with an unclosed block the
shell is idempotent: `format (format x) = format x = x` plus a final newline. -/
theorem FM_UNCLOSED_FIX (text : Str) (F : Str → Str) (hcr : '\r' ∉ text)
    (h : splitFrontmatterLines (fmLines text) = .unclosed) :
    fillShell F text = ensureFinalNl text ∧
    fillShell F (fillShell F text) = fillShell F text := by
  have key : ∀ t, '\r' ∉ t → splitFrontmatterLines (fmLines t) = .unclosed → t ≠ [] →
      fillShell F t = ensureFinalNl t :=
    fun t hcr h hne => FM_UNCLOSED t F h hne (by rw [UNCLOSED_COUNT t hcr h]; decide)
  have hne : text ≠ [] := by
    rintro rfl
    have : splitFrontmatterLines (fmLines []) = .none := by decide
    rw [this] at h; cases h
  refine ⟨key text hcr h hne, ?_⟩
  rw [key text hcr h hne, key _ (no_cr_ensureFinalNl hcr) (by rw [fmLines_ensureFinalNl text hcr hne]; exact h)
    (by unfold ensureFinalNl; split <;> simp [hne]), ensureFinalNl_idem]

/-- FM_EXACT_STRING (the property's first sentence, at string level): if the document — after CRLF → LF,
the one rewriting the property allows — is a block `o⏎ mid… ⏎c⏎` whose first and last lines are `---`
lines and whose inner lines are not, followed by any `body`, then the frontmatter handed back is that
block **character for character** (every other character, including lone CR, U+2028, form feeds, trailing
spaces of the delimiter lines, is kept; nothing else is a line end), and the content is `body`, at most
shortened by its final newline. -/
theorem FM_EXACT_STRING (text o c : Str) (mid : List Str) (body : Str)
    (ht : replaceCRLF text = unlines (o :: mid ++ [c]) ++ body)
    (ho : isDelim o = true) (hc : isDelim c = true)
    (hnl : ∀ l ∈ o :: mid ++ [c], '\n' ∉ l)
    (hmid : ∀ l ∈ mid, isDelim l = false) :
    ∃ content, splitFrontmatter text = (unlines (o :: mid ++ [c]), content) ∧
      (content = body ∨ content ++ ['\n'] = body) := by
  refine ⟨joinWith ['\n'] (popEmptyLast (pySplitNl body)), ?_, join_popped body⟩
  unfold splitFrontmatter
  rw [split_block text o c mid body ht ho hc hnl hmid]
  simp only
  rw [List.cons_append, joinWith_unlines]

/-- FM_INDEP (the property's equation `format(frontmatter + body) = frontmatter + format(body)`), for every
formatter `F` of the body that does not depend on one final newline (Marko's does not: the body is stripped
first — `fill_markdown` hands `F` the text before `strip`), and every body that does not itself open with a
`---` line (see known finding C07-body-starts-with-dashes for that case). -/
theorem FM_INDEP (text o c : Str) (mid : List Str) (body : Str) (F : Str → Str)
    (ht : replaceCRLF text = unlines (o :: mid ++ [c]) ++ body)
    (ho : isDelim o = true) (hc : isDelim c = true)
    (hnl : ∀ l ∈ o :: mid ++ [c], '\n' ∉ l)
    (hmid : ∀ l ∈ mid, isDelim l = false)
    (hF : ∀ s, F (s ++ ['\n']) = F s)
    (hb : splitFrontmatterLines (fmLines body) = .none) :
    fillShell F text = unlines (o :: mid ++ [c]) ++ fillShell F body := by
  obtain ⟨content, hs, hcont⟩ := FM_EXACT_STRING text o c mid body ht ho hc hnl hmid
  rw [(FM_NONE body hb F).2]
  have hne : (unlines (o :: mid ++ [c])).isEmpty = false := by simp [unlines]
  have hcnt := delimCount_block o c mid ho hc hnl
  unfold fillShell
  rw [hs]
  simp only [hne, Bool.false_eq_true, if_false]
  have h2 : ¬ (delimCount (unlines (o :: mid ++ [c])) < 2) := by omega
  simp only [h2, decide_false, Bool.and_false, Bool.false_eq_true, if_false]
  rcases hcont with rfl | rfl
  · rfl
  · rw [hF]

/-- non-vacuity of FM_EXACT_STRING / FM_INDEP: CRLF input, a lone CR, U+2028 and trailing blanks inside the block -/
example : ∃ content, splitFrontmatter "--- \r\na: 1\u2028b\rc\n---\nbody\n".toList
      = (unlines ["--- ".toList, "a: 1\u2028b\rc".toList, "---".toList], content) ∧
      (content = "body\n".toList ∨ content ++ ['\n'] = "body\n".toList) :=
  FM_EXACT_STRING _ "--- ".toList "---".toList ["a: 1\u2028b\rc".toList] "body\n".toList
    (by decide +kernel) (by decide +kernel) (by decide +kernel) (by decide +kernel) (by decide +kernel)

/-- non-vacuity and the repaired regression: `---\nfoo: bar\n` is a fixed point of the shell. -/
example : fillShell (fun _ => ['\n']) "---\nfoo: bar\n".toList = "---\nfoo: bar\n".toList := by decide +kernel
example : fillShell (fun _ => ['\n']) "---\nfoo: bar".toList = "---\nfoo: bar\n".toList := by decide +kernel

/-- a closed block: frontmatter reproduced, body handed to `F`. -/
example : fillShell (fun b => 'B' :: b) "\n---\na: 1\r\n---\nbody\n".toList
    = "---\na: 1\n---\nBbody".toList := by decide +kernel

/-- exotic separators are not line ends (the repaired regression of `str.splitlines`). -/
example : splitFrontmatter "---\na b\n---\nx\u001cy".toList
    = ("---\na b\n---\n".toList, "x\u001cy".toList) := by decide +kernel

end FM.C07
