import FM.Generated.Patterns
import FM.Model.PatternBaseline
import FM.Lemmas.Sentence
/-
  C11 — Semantic line breaks fall at sentence ends and keep edits local.

  Theorems about the exact fold model `foldSent`/`wrapBySentence` of `line_wrap_by_sentence`
  (tied by equality on op `sentWrap`).  The sentence-end test is a parameter (words arrive
  flagged), so the theorems hold for whatever `SENTENCE_END_RE` recognises.
-/
namespace FM.C11
open FM

/-- FRAME: the loop only ever rewrites the last line and appends. -/
theorem FRAME (c : SCfg) (ss : List (List Word)) (first : Bool) (pre suf : List Line)
    (h : suf ≠ []) : foldSent c first (pre ++ suf) ss = pre ++ foldSent c first suf ss :=
  foldSent_frame c ss first pre suf h

/-- LOCAL_PREFIX: two paragraphs that agree on their first sentences `pre` give outputs that
agree on every line before the last line produced by `pre` (whatever follows: `a` vs `b`). -/
theorem LOCAL_PREFIX (c : SCfg) (pre a b : List (List Word)) :
    let P := foldSent c true [] pre
    ∃ ta tb, foldSent c true [] (pre ++ a) = P.dropLast ++ ta ∧
             foldSent c true [] (pre ++ b) = P.dropLast ++ tb := by
  intro P
  have key : ∀ x, P.dropLast <+: foldSent c true [] (pre ++ x) := fun x => by
    rw [foldSent_append]
    exact foldSent_dropLast_prefix ..
  obtain ⟨ta, ha⟩ := key a
  obtain ⟨tb, hb⟩ := key b
  exact ⟨ta, tb, ha.symm, hb.symm⟩

/-- END_BREAKS: after a line of at least `min_line_len` the next sentence starts a new line,
wrapped on its own from the continuation indent. -/
theorem END_BREAKS (c : SCfg) (L : List Line) (l : Line) (s : List Word)
    (h : c.minLen ≤ lineLen l) :
    sentStep c false (L ++ [l]) s = L ++ [l] ++ fill c.W c.s0 c.md c.s0 s :=
  sentStep_long c L l s h

/-- LOCAL_SUFFIX: once a sentence ends on a line of at least `min_line_len`, everything that
follows is laid out independently of all earlier text. -/
theorem LOCAL_SUFFIX (c : SCfg) : ∀ (suf : List (List Word)) (L : List Line) (l : Line),
    c.minLen ≤ lineLen l →
    foldSent c false (L ++ [l]) suf = L ++ [l] ++ foldSent c false [] suf := by
  intro suf
  induction suf with
  | nil => intros; simp [foldSent]
  | cons s rest ih =>
    intro L l h
    simp only [foldSent]
    rw [sentStep_long c L l s h, sentStep_nil]
    by_cases hx : fill c.W c.s0 c.md c.s0 s = []
    · rw [hx]; simp only [List.append_nil]; exact ih L l h
    · exact foldSent_frame c rest false (L ++ [l]) _ hx

/-- Two runs that both end some sentence on a long line continue identically. -/
theorem LOCAL_SUFFIX_two (c : SCfg) (suf : List (List Word)) (LA LB : List Line) (la lb : Line)
    (ha : c.minLen ≤ lineLen la) (hb : c.minLen ≤ lineLen lb) :
    (foldSent c false (LA ++ [la]) suf).drop (LA ++ [la]).length =
    (foldSent c false (LB ++ [lb]) suf).drop (LB ++ [lb]).length := by
  rw [LOCAL_SUFFIX c suf LA la ha, LOCAL_SUFFIX c suf LB lb hb]
  simp

/-- BREAK_CAUSE: each sentence contributes exactly the lines of a greedy fill of that sentence
alone (from some starting column), appended — or glued to the previous line when that line is
shorter than `min_line_len`.  With `C05.MAXIMAL` every break inside a sentence is width-forced;
every other break is a sentence boundary. -/
theorem BREAK_CAUSE (c : SCfg) (first : Bool) (lines : List Line) (s : List Word) :
    ∃ col, sentStep c first lines s = lines ++ fill c.W c.s0 c.md col s ∨
      ∃ last w0 rest, lines.getLast? = some last ∧ lineLen last < c.minLen ∧
        fill c.W c.s0 c.md col s = w0 :: rest ∧
        sentStep c first lines s = lines.dropLast ++ (last ++ w0) :: rest := by
  obtain ⟨col, h | ⟨init, last, w0, rest, rfl, hshort, hw, -, h⟩⟩ := sentStep_shape c first lines s
  · exact ⟨col, .inl h⟩
  · exact ⟨col, .inr ⟨last, w0, rest, by simp, hshort, hw, by simpa using h⟩⟩

/-- one step adds the sentence's words, up to the escape of some line heads -/
theorem S_LOSSLESS_step (c : SCfg) (first : Bool) (lines : List Line) (s : List Word) :
    ∃ Y, (sentStep c first lines s).flatten = lines.flatten ++ Y ∧ EscRel (escOf c.md) Y s := by
  obtain ⟨col, h⟩ := sentStep_shape c first lines s
  refine ⟨(fill c.W c.s0 c.md col s).flatten, ?_, (fill_linesOf c.W col c.s0 c.md s).flatten_rel⟩
  rcases h with h | ⟨init, last, w0, rest, rfl, -, hw, -, h⟩
  · simp [h]
  · simp [h, hw]

/-- S_LOSSLESS: the output is the input word sequence, line by line, up to the Markdown escape
of some words (heads of wrapped lines inside a sentence). -/
theorem S_LOSSLESS (c : SCfg) : ∀ (ss : List (List Word)) (first : Bool) (lines : List Line),
    ∃ X, (foldSent c first lines ss).flatten = lines.flatten ++ X ∧
      EscRel (escOf c.md) X ss.flatten := by
  intro ss
  induction ss with
  | nil => intro first lines; exact ⟨[], by simp [foldSent], .nil⟩
  | cons s rest ih =>
    intro first lines
    obtain ⟨Y, hY, hYr⟩ := S_LOSSLESS_step c first lines s
    obtain ⟨X, hX, hXr⟩ := ih false (sentStep c first lines s)
    refine ⟨Y ++ X, ?_, by simpa using hYr.append hXr⟩
    simp only [foldSent]
    rw [hX, hY, List.append_assoc]

/-- SPLIT: sentence splitting partitions the word sequence. -/
theorem SPLIT : ∀ (ws : List (Word × Bool)) (cur : List Word),
    (splitSent ws cur).flatten = cur ++ ws.map Prod.fst := by
  intro ws
  induction ws with
  | nil => intro cur; cases cur <;> simp [splitSent]
  | cons p ws ih =>
    intro cur
    obtain ⟨w, e⟩ := p
    cases e <;> simp [splitSent, ih]

/-- non-vacuity: a concrete paragraph where all three behaviours (merge, sentence break,
width break) occur. -/
example :
    (wrapBySentence { W := 20, i0 := 0, s0 := 0, minLen := 8, md := false }
      [("Go".toList, false), ("on.".toList, true), ("This".toList, false), ("is".toList, false),
       ("long".toList, false), ("enough".toList, false), ("here.".toList, true),
       ("End.".toList, true)]).map joinSp
    = ["Go on. This is long".toList, "enough here.".toList, "End.".toList] := by decide +kernel

/-- PATTERNS_AS_MODELLED: the regular expressions of the source files this property's models were written against
(regenerated from /repo's working tree on every run by harness/translate_patterns.py) are the recorded ones. -/
theorem PATTERNS_AS_MODELLED : FM.Gen.patterns_C11 = FM.Baseline.patterns_C11 := rfl

end FM.C11
